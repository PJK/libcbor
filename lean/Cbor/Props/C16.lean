import Cbor.Lemmas.Utf8
/-!
# C16 — code point count equals the strict UTF-8 count, or 0 for invalid text

Over the generated `Gen._cbor_unicode_codepoint_count` (and the generated 400-entry table `Gen.utf8d`),
against the RFC 3629 grammar `Spec.Utf8` — for byte sequences of every length.
-/
namespace Props.C16
open Gen Lemmas.Utf8

/-- For the `len` bytes at `off`: if they are `UTF8-octets` per RFC 3629 §4 the function
returns the number of `UTF8-char`s (Unicode scalar values) with status OK; otherwise it returns 0 with
status BADCP.  The result does not depend on what the caller left in the status struct. -/
theorem C16_count (src : Array UInt8) (off : Nat) (len : UInt64) (hsz : off + len.toNat ≤ src.size)
    (st0 : S__cbor_unicode_status) :
    let r := _cbor_unicode_codepoint_count src off len st0
    match Spec.Utf8.count (bl src off len.toNat 0) with
    | some n => r.1.toNat = n ∧ r.2.status = _CBOR_UNICODE_OK
    | none => r.1 = 0 ∧ r.2.status = _CBOR_UNICODE_BADCP := by
  have hrun := refCount_run src off len hsz
  -- the generated function is used only through `count_eq_ref` (it equals the hand-written reference `refCount`)
  simp only [(count_eq_ref src off len st0).1, refCount] at hrun ⊢
  cases hc : Spec.Utf8.count (bl src off len.toNat 0) with
  | some n =>
    rw [hc] at hrun
    obtain ⟨_, e1, e2, e3⟩ := hrun
    simp [e1, e2, e3, _CBOR_UNICODE_OK]
  | none =>
    rw [hc] at hrun
    obtain ⟨_, h | ⟨h1, h2⟩⟩ := hrun
    · simp [h, _CBOR_UNICODE_BADCP]
    · have h2' : ¬ (refLoop src off len (len.toNat + 1) 0 0 0 0).1.2.1.toNat = 0 :=
        fun h => h2 (UInt32.toNat_inj.mp (by simpa using h))
      simp [h1, h2', _CBOR_UNICODE_BADCP]

/-- no read outside the string, table indices in range, shift amounts in range, loop fuel sufficient -/
theorem C16_safe (src : Array UInt8) (off : Nat) (len : UInt64) (hsz : off + len.toNat ≤ src.size)
    (st0 : S__cbor_unicode_status) : _cbor_unicode_codepoint_count.ok src off len st0 = true := by
  rw [(count_eq_ref src off len st0).2]
  exact (refCount_run src off len hsz).1

/-- whatever the fuel, a count is at most the number of bytes (the `CBOR_ASSERT` in `cbor_string_set_handle`) -/
theorem count_le_length : ∀ (n : Nat) (bs : List Nat) (c : Nat), Spec.Utf8.countFuel n bs = some c → c ≤ bs.length := by
  intro n
  induction n with
  | zero => intro bs c h; cases bs <;> simp_all [Spec.Utf8.countFuel]
  | succ n ih =>
    intro bs c h
    cases bs with
    | nil => simp_all [Spec.Utf8.countFuel]
    | cons b r =>
      simp only [Spec.Utf8.countFuel] at h
      cases hc : Spec.Utf8.charRest (b :: r) with
      | none => simp [hc] at h
      | some r' =>
        have hl := charRest_len hc
        cases hr : Spec.Utf8.countFuel n r' with
        | none => simp [hc, hr] at h
        | some k => simp [hc, hr] at h; have := ih r' k hr; omega

-- non-vacuity: the grammar accepts and rejects what RFC 3629 says (kernel-evaluated)
example : Spec.Utf8.count [0xC3, 0xA9] = some 1 := by decide
example : Spec.Utf8.count [0xED, 0xA0, 0x80] = none := by decide          -- surrogate
example : Spec.Utf8.count [0xC0, 0x80] = none := by decide                -- overlong
example : Spec.Utf8.count [0xF4, 0x90, 0x80, 0x80] = none := by decide    -- above U+10FFFF
example : Spec.Utf8.count [0xE2, 0x82] = none := by decide                -- truncated
example : Spec.Utf8.count [0xF0, 0x9F, 0x98, 0x80, 0x41] = some 2 := by decide
example : (_cbor_unicode_codepoint_count #[0xF0, 0x9F, 0x98, 0x80, 0x41] 0 5 ⟨7, 77⟩).1 = 2 := by decide +kernel

end Props.C16
