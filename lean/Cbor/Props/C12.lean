import Cbor.Lemmas.Heap
/-!
# C12 — arrays, maps and chunked strings behave as bounded / unbounded sequences

Over the heap-level model (`Cbor/Model/Heap.lean`), whose overflow guards are the generated `Gen._cbor_safe_to_multiply`.
`arrOf` / `mapOf` / `chunksOf` are what a client observes of a container; every operation acts on it as the corresponding
list operation: definite containers refuse exactly when full, indefinite ones grow by the doubling rule (`n` insertions
cost `⌈log₂ n⌉ + 1` reallocations), size never exceeds capacity, out-of-range indices are refused with the heap untouched.
-/
namespace Props.C12
open Heap

/-- (definite?, members, capacity) of the array at `a` -/
def arrOf (h : H) (a : Ref) : Option (Bool × List Ref × Nat) :=
  match h.get a with
  | some ⟨.arr d xs al, _⟩ => some (d, xs, al)
  | _ => none

def mapOf (h : H) (m : Ref) : Option (Bool × List (Ref × Ref) × Nat) :=
  match h.get m with
  | some ⟨.map d ps al, _⟩ => some (d, ps, al)
  | _ => none

def chunksOf (h : H) (s : Ref) : Option (List Ref × Nat) :=
  match h.get s with
  | some ⟨.strI _ cs cap, _⟩ => some (cs, cap)
  | _ => none

/-- the capacity `grow` asks for: `CBOR_BUFFER_GROWTH` = 2, and 1 for an empty array -/
def growTo (alloc : Nat) : Nat := if alloc = 0 then 1 else 2 * alloc

def nodeOf (h : H) (r : Ref) : Option Node := (h.get r).map Cell.node

theorem nodeOf_eq_some {h : H} {r : Ref} {n : Node} : nodeOf h r = some n ↔ ∃ rc, h.get r = some ⟨n, rc⟩ := by
  unfold nodeOf
  cases h.get r with
  | none => simp
  | some c => obtain ⟨n', rc⟩ := c; simp

theorem nodeOf_incref (h : H) (x r : Ref) : nodeOf (h.incref x) r = nodeOf h r := by
  unfold nodeOf
  by_cases e : r = x
  · subst e
    cases hg : h.get r with
    | none =>
      have : (h.incref r).get r = h.get r := by simp only [H.incref, hg]; exact hg
      rw [this, hg]
    | some c => rw [incref_get_same h r c hg]; rfl
  · rw [incref_get_other _ _ _ e]

theorem nodeOf_put_same (h : H) (r : Ref) (c : Cell) (hr : r < h.cells.length) : nodeOf (h.put r (some c)) r = some c.node := by
  unfold nodeOf; rw [get_put_same _ _ _ hr]; rfl

theorem nodeOf_put_other (h : H) (r r' : Ref) (c : Option Cell) (hne : r' ≠ r) : nodeOf (h.put r c) r' = nodeOf h r' := by
  unfold nodeOf; rw [get_put_other _ _ _ _ hne]

theorem increfs : ∀ (rs : List Ref) (g : H),
    (∀ r, nodeOf (rs.foldl H.incref g) r = nodeOf g r) ∧ (rs.foldl H.incref g).reqs = g.reqs ∧
    ((∀ y ∈ rs, ∃ c, g.get y = some c) → (rs.foldl H.incref g).fault = g.fault)
  | [], _ => ⟨fun _ => rfl, rfl, fun _ => rfl⟩
  | x :: rs, g => by
    obtain ⟨i1, i2, i3⟩ := increfs rs (g.incref x)
    refine ⟨fun r => (i1 r).trans (nodeOf_incref g x r), i2.trans (incref_reqs g x), fun hl => ?_⟩
    obtain ⟨c, hc⟩ := hl x List.mem_cons_self
    refine (i3 fun y hy => ?_).trans (incref_fault g x c hc)
    obtain ⟨c', hc'⟩ := hl y (List.mem_cons_of_mem _ hy)
    obtain ⟨rc, e⟩ := nodeOf_eq_some.mp ((nodeOf_incref g x y).trans (nodeOf_eq_some.mpr ⟨c'.rc, hc'⟩))
    exact ⟨_, e⟩

theorem arrOf_iff {h : H} {a : Ref} {d : Bool} {xs : List Ref} {al : Nat} :
    arrOf h a = some (d, xs, al) ↔ nodeOf h a = some (.arr d xs al) := by
  unfold arrOf nodeOf
  cases h.get a with
  | none => simp
  | some c => obtain ⟨n, rc⟩ := c; cases n <;> simp

theorem mapOf_iff {h : H} {m : Ref} {d : Bool} {ps : List (Ref × Ref)} {al : Nat} :
    mapOf h m = some (d, ps, al) ↔ nodeOf h m = some (.map d ps al) := by
  unfold mapOf nodeOf
  cases h.get m with
  | none => simp
  | some c => obtain ⟨n, rc⟩ := c; cases n <;> simp

theorem chunksOf_iff {h : H} {s : Ref} {cs : List Ref} {cap : Nat} :
    chunksOf h s = some (cs, cap) ↔ ∃ t, nodeOf h s = some (.strI t cs cap) := by
  unfold chunksOf nodeOf
  cases h.get s with
  | none => simp
  | some c => obtain ⟨n, rc⟩ := c; cases n <;> simp

theorem arrOf_some {h : H} {a : Ref} {d : Bool} {xs : List Ref} {al : Nat} (ha : arrOf h a = some (d, xs, al)) :
    ∃ rc, h.get a = some ⟨.arr d xs al, rc⟩ :=
  nodeOf_eq_some.mp (arrOf_iff.mp ha)

theorem grow_spec (ω : Oracle) (h : H) (sz al : Nat) (hsz : sz = 8 ∨ sz = 16) (hal : al < 2 ^ 58) :
    grow ω h sz al = if ω h.reqs then (some (growTo al), { h with reqs := h.reqs + 1 }) else (none, { h with reqs := h.reqs + 1 }) := by
  unfold grow growTo
  have h1 : mulOk 2 al = true := mulOk_small 2 al (by omega) (by omega) (by omega)
  have h2 : mulOk sz (if al = 0 then 1 else 2 * al) = true := by
    apply mulOk_small
    · rcases hsz with e | e <;> subst e <;> split <;> omega
    · rcases hsz with e | e <;> subst e <;> omega
    · split <;> omega
  simp only [h1, h2, Bool.not_true, Bool.false_eq_true, if_false, H.req]
  split <;> simp_all

/-- an abstract container: a list with a capacity.  `definite` ones never grow; indefinite ones grow by the
doubling rule when the allocator (the oracle, asked request number `reqs`) grants it. -/
structure AbsSeq (α : Type) where
  definite : Bool
  cap : Nat
  items : List α
  /-- allocator requests made so far = index of the next request put to the oracle -/
  reqs : Nat

abbrev AbsArr := AbsSeq Ref

namespace AbsSeq
variable {α : Type}

def push (ω : Oracle) (s : AbsSeq α) (x : α) : AbsSeq α × Bool :=
  if s.items.length < s.cap then ({ s with items := s.items ++ [x] }, true)
  else if s.definite then (s, false)
  else if ω s.reqs then ({ s with items := s.items ++ [x], cap := growTo s.cap, reqs := s.reqs + 1 }, true)
  else ({ s with reqs := s.reqs + 1 }, false)

/-- same container, possibly after some refused requests: kind, capacity and contents agree -/
def Same (s t : AbsSeq α) : Prop := t.definite = s.definite ∧ t.cap = s.cap ∧ t.items = s.items

theorem growTo_gt (c : Nat) : c < growTo c := by unfold growTo; split <;> omega

theorem push_definite_eq (ω : Oracle) (s : AbsSeq α) (x : α) : (s.push ω x).1.definite = s.definite := by
  unfold push; repeat' split
  all_goals rfl

theorem push_le_cap (ω : Oracle) (s : AbsSeq α) (x : α) (h : s.items.length ≤ s.cap) :
    (s.push ω x).1.items.length ≤ (s.push ω x).1.cap := by
  unfold push; repeat' split
  all_goals simp only [List.length_append, List.length_singleton]
  all_goals first | omega | (have := growTo_gt s.cap; omega)

theorem push_length_le (ω : Oracle) (s : AbsSeq α) (x : α) : (s.push ω x).1.items.length ≤ s.items.length + 1 := by
  unfold push; repeat' split
  all_goals simp only [List.length_append, List.length_singleton]
  all_goals omega

theorem push_ok_iff (ω : Oracle) (s : AbsSeq α) (x : α) :
    (s.push ω x).2 = true ↔ (s.items.length < s.cap ∨ (s.definite = false ∧ ω s.reqs = true)) := by
  unfold push; repeat' split
  all_goals simp_all

theorem push_ok_items (ω : Oracle) (s : AbsSeq α) (x : α) (h : (s.push ω x).2 = true) :
    (s.push ω x).1.items = s.items ++ [x] := by
  unfold push at h ⊢; repeat' split
  all_goals simp_all

theorem push_refused (ω : Oracle) (s : AbsSeq α) (x : α) (h : (s.push ω x).2 = false) : Same s (s.push ω x).1 := by
  unfold push at h ⊢; repeat' split
  all_goals simp_all [Same]

theorem push_definite (ω : Oracle) (s : AbsSeq α) (x : α) (hd : s.definite = true) :
    (s.push ω x).1.cap = s.cap ∧ (s.push ω x).1.reqs = s.reqs ∧ ((s.push ω x).2 = true ↔ s.items.length < s.cap) := by
  unfold push; repeat' split
  all_goals simp_all

theorem push_room (ω : Oracle) {s : AbsSeq α} (x : α) (h : s.items.length < s.cap) :
    s.push ω x = ({ s with items := s.items ++ [x] }, true) := by
  simp [push, h]

theorem push_full_definite (ω : Oracle) {s : AbsSeq α} (x : α) (h : s.cap ≤ s.items.length) (hd : s.definite = true) :
    s.push ω x = (s, false) := by
  simp [push, Nat.not_lt.mpr h, hd]

theorem push_granted (ω : Oracle) {s : AbsSeq α} (x : α) (h : s.cap ≤ s.items.length) (hd : s.definite = false)
    (hω : ω s.reqs = true) :
    s.push ω x = ({ s with items := s.items ++ [x], cap := growTo s.cap, reqs := s.reqs + 1 }, true) := by
  simp [push, Nat.not_lt.mpr h, hd, hω]

theorem push_denied (ω : Oracle) {s : AbsSeq α} (x : α) (h : s.cap ≤ s.items.length) (hd : s.definite = false)
    (hω : ω s.reqs = false) : s.push ω x = ({ s with reqs := s.reqs + 1 }, false) := by
  simp [push, Nat.not_lt.mpr h, hd, hω]

end AbsSeq

/-- the abstract list `s` describes the container at `a`, whose node is `mk` of kind, contents and capacity, and the allocator
requests made so far -/
def Rel {α : Type} (mk : Bool → List α → Nat → Node) (h : H) (a : Ref) (s : AbsSeq α) : Prop :=
  nodeOf h a = some (mk s.definite s.items s.cap) ∧ h.reqs = s.reqs

/-- The common end of every successful insertion and replacement: a node is stored into the live cell `a` and the references
`refs` it gained are counted (`a` itself may be among them). -/
theorem put_increfs (h : H) {a : Ref} (n : Node) (rc : Nat) (refs : List Ref) (ha : a < h.cells.length) :
    let g := refs.foldl H.incref (h.put a (some ⟨n, rc⟩))
    nodeOf g a = some n ∧ (∀ y, y ≠ a → nodeOf g y = nodeOf h y) ∧ g.reqs = h.reqs ∧
    ((∀ y ∈ refs, ∃ c, h.get y = some c) → g.fault = h.fault) := by
  obtain ⟨i1, i2, i3⟩ := increfs refs (h.put a (some ⟨n, rc⟩))
  refine ⟨by rw [i1, nodeOf_put_same _ _ _ ha], fun y hy => by rw [i1, nodeOf_put_other _ _ _ _ hy], i2,
    fun hrefs => i3 fun y hy => ?_⟩
  by_cases ey : y = a
  · subst ey; exact ⟨_, get_put_same _ _ _ ha⟩
  · rw [get_put_other _ _ _ _ ey]; exact hrefs y hy

/-- Once the container cell `⟨mk d xs al, rc⟩` has been found at `a`, what `arrPush`, `mapAdd` and `addChunk` do
(`Heap.insert`) is the push on the list `⟨d, al, xs⟩`; `full` is the capacity test of the operation.  Beyond `2 ^ 58` slots
`esz * capacity` overflows `size_t` and the overflow guard refuses to grow, which the abstract list does not model. -/
theorem insert_push {β : Type} (ω : Oracle) {h : H} {a : Ref} {rc : Nat} (mk : Bool → List β → Nat → Node) {d : Bool} {esz : Nat}
    {xs : List β} {al : Nat} {full : Bool} (x : β) (refs : List Ref) {p : AbsSeq β × Bool}
    (hg : h.get a = some ⟨mk d xs al, rc⟩) (hesz : esz = 8 ∨ esz = 16) (hfull : full = true ↔ al ≤ xs.length)
    (hal : d = false → al ≤ xs.length → al < 2 ^ 58) (hp : AbsSeq.push ω ⟨d, al, xs, h.reqs⟩ x = p) :
    let r := insert ω h a rc (mk d) d esz xs al full x refs
    r.1 = p.2 ∧ Rel mk r.2 a p.1 ∧ (p.2 = false → r.2 = { h with reqs := p.1.reqs }) ∧
    (∀ y, y ≠ a → nodeOf r.2 y = nodeOf h y) ∧ ((∀ y ∈ refs, ∃ c, h.get y = some c) → r.2.fault = h.fault) := by
  intro r
  subst hp
  have hA : nodeOf h a = some (mk d xs al) := nodeOf_eq_some.mpr ⟨rc, hg⟩
  by_cases hl : al ≤ xs.length
  · obtain rfl : full = true := hfull.mpr hl
    cases d
    · have hgrow := grow_spec ω h esz al hesz (hal rfl hl)
      cases hω : ω h.reqs
      · rw [AbsSeq.push_denied ω x hl rfl hω]
        have e : r = (false, { h with reqs := h.reqs + 1 }) := by simp [r, Heap.insert, hgrow, hω]
        rw [e]
        exact ⟨rfl, ⟨hA, rfl⟩, fun _ => rfl, fun _ _ => rfl, fun _ => rfl⟩
      · rw [AbsSeq.push_granted ω x hl rfl hω]
        have e : r = (true, refs.foldl H.incref
            (({ h with reqs := h.reqs + 1 } : H).put a (some ⟨mk false (xs ++ [x]) (growTo al), rc⟩))) := by
          simp [r, Heap.insert, hgrow, hω]
        obtain ⟨p1, p2, p3, p4⟩ := put_increfs { h with reqs := h.reqs + 1 } (mk false (xs ++ [x]) (growTo al)) rc refs (get_lt hg)
        rw [e]
        exact ⟨rfl, ⟨p1, p3⟩, nofun, p2, p4⟩
    · rw [AbsSeq.push_full_definite ω x hl rfl]
      exact ⟨rfl, ⟨hA, rfl⟩, fun _ => rfl, fun _ _ => rfl, fun _ => rfl⟩
  · obtain rfl : full = false := Bool.eq_false_iff.mpr fun e => hl (hfull.mp e)
    rw [AbsSeq.push_room ω x (Nat.lt_of_not_le hl)]
    obtain ⟨p1, p2, p3, p4⟩ := put_increfs h (mk d (xs ++ [x]) al) rc refs (get_lt hg)
    exact ⟨rfl, ⟨p1, p3⟩, nofun, p2, p4⟩

/-- the four outcomes of an insertion, in the words of the specifications below -/
theorem insert_cases {β : Type} (ω : Oracle) {h : H} {a : Ref} {rc : Nat} (mk : Bool → List β → Nat → Node) {d : Bool} {esz : Nat}
    {xs : List β} {al : Nat} {full : Bool} (x : β) (refs : List Ref)
    (hg : h.get a = some ⟨mk d xs al, rc⟩) (hesz : esz = 8 ∨ esz = 16) (hfull : full = true ↔ al ≤ xs.length)
    (hal : d = false → al ≤ xs.length → al < 2 ^ 58) :
    let r := insert ω h a rc (mk d) d esz xs al full x refs
    (xs.length < al → r.1 = true ∧ Rel mk r.2 a ⟨d, al, xs ++ [x], h.reqs⟩) ∧
    (al ≤ xs.length → d = true → r = (false, h)) ∧
    (al ≤ xs.length → d = false → ω h.reqs = true → r.1 = true ∧ Rel mk r.2 a ⟨d, growTo al, xs ++ [x], h.reqs + 1⟩) ∧
    (al ≤ xs.length → d = false → ω h.reqs = false → r = (false, { h with reqs := h.reqs + 1 })) := by
  have hi := fun p => insert_push ω mk x refs (p := p) hg hesz hfull hal
  refine ⟨fun hl => ?_, fun hl hd => ?_, fun hl hd hω => ?_, fun hl hd hω => ?_⟩
  · obtain ⟨e1, e2, -⟩ := hi _ (AbsSeq.push_room ω x hl)
    exact ⟨e1, e2⟩
  · obtain ⟨e1, -, e3, -⟩ := hi _ (AbsSeq.push_full_definite ω x hl hd)
    exact Prod.ext e1 (e3 rfl)
  · obtain ⟨e1, e2, -⟩ := hi _ (AbsSeq.push_granted ω x hl hd hω)
    exact ⟨e1, e2⟩
  · obtain ⟨e1, -, e3, -⟩ := hi _ (AbsSeq.push_denied ω x hl hd hω)
    exact Prod.ext e1 (e3 rfl)

/-- **Definite arrays are bounded sequences**: a push appends when there is room and is refused, with the
heap untouched and the allocator not consulted, when the array is full. -/
theorem push_definite (ω : Oracle) (h : H) (a x : Ref) (xs : List Ref) (al rc : Nat)
    (hg : h.get a = some ⟨.arr true xs al, rc⟩) (hx : x ≠ a) :
    (xs.length < al → (arrPush ω h a x).1 = true ∧ arrOf (arrPush ω h a x).2 a = some (true, xs ++ [x], al) ∧
        (arrPush ω h a x).2.reqs = h.reqs) ∧
    (al ≤ xs.length → arrPush ω h a x = (false, h)) := by
  obtain ⟨c1, c2, -⟩ := insert_cases ω Node.arr x [x] hg (Or.inl rfl) decide_eq_true_iff nofun
  rw [arrPush_eq hg]
  exact ⟨fun hl => (c1 hl).imp_right (.imp_left arrOf_iff.mpr), fun hl => c2 hl rfl⟩

/-- **Indefinite arrays are unbounded sequences**: a push appends; when size has reached capacity the
capacity first grows by the doubling rule with exactly one allocator request, and if that request is
refused the push fails leaving contents, capacity and every reference count as they were. -/
theorem push_indefinite (ω : Oracle) (h : H) (a x : Ref) (xs : List Ref) (al rc : Nat)
    (hg : h.get a = some ⟨.arr false xs al, rc⟩) (hx : x ≠ a) (hal : al < 2 ^ 58) :
    (xs.length < al → (arrPush ω h a x).1 = true ∧ arrOf (arrPush ω h a x).2 a = some (false, xs ++ [x], al) ∧
        (arrPush ω h a x).2.reqs = h.reqs) ∧
    (al ≤ xs.length → ω h.reqs = true → (arrPush ω h a x).1 = true ∧
        arrOf (arrPush ω h a x).2 a = some (false, xs ++ [x], growTo al) ∧ (arrPush ω h a x).2.reqs = h.reqs + 1) ∧
    (al ≤ xs.length → ω h.reqs = false → arrPush ω h a x = (false, { h with reqs := h.reqs + 1 })) := by
  obtain ⟨c1, -, c3, c4⟩ := insert_cases ω Node.arr x [x] hg (Or.inl rfl) decide_eq_true_iff fun _ _ => hal
  rw [arrPush_eq hg]
  exact ⟨fun hl => (c1 hl).imp_right (.imp_left arrOf_iff.mpr),
    fun hl hω => (c3 hl rfl hω).imp_right (.imp_left arrOf_iff.mpr), fun hl => c4 hl rfl⟩

/-- **Reads by index**: inside the array a new reference to that member is handed out; outside, NULL and
the heap is untouched. -/
theorem get_spec (h : H) (a : Ref) (d : Bool) (xs : List Ref) (al : Nat) (i : Nat) (ha : arrOf h a = some (d, xs, al)) :
    arrGet h a i = match xs[i]? with
      | some x => (some x, h.incref x)
      | none => (none, h) := by
  obtain ⟨rc, hg⟩ := arrOf_some ha
  unfold arrGet
  rw [hg]
  rfl

theorem get_out_of_range (h : H) (a : Ref) (d : Bool) (xs : List Ref) (al : Nat) (i : Nat) (ha : arrOf h a = some (d, xs, al))
    (hi : xs.length ≤ i) : arrGet h a i = (none, h) := by
  rw [get_spec h a d xs al i ha, List.getElem?_eq_none hi]

/-- **Replace** outside the array is refused and the heap is untouched.  (Inside it overwrites that position: the old member
loses the array's reference, the new one gains it — `arrReplace_step` in `Lemmas/SeqRefine.lean`.) -/
theorem replace_out_of_range (h : H) (a : Ref) (d : Bool) (xs : List Ref) (al : Nat) (i x : Nat)
    (ha : arrOf h a = some (d, xs, al)) (hi : xs.length ≤ i) : arrReplace h a i x = (false, h) := by
  obtain ⟨rc, hg⟩ := arrOf_some ha
  simp only [arrReplace, hg, List.getElem?_eq_none hi]

/-- **Set**: at `size` it is a push, below it a replace, beyond it refused with the heap untouched. -/
theorem set_spec (ω : Oracle) (h : H) (a : Ref) (d : Bool) (xs : List Ref) (al : Nat) (i x : Nat)
    (ha : arrOf h a = some (d, xs, al)) :
    arrSet ω h a i x = if i = xs.length then arrPush ω h a x else if i < xs.length then arrReplace h a i x else (false, h) := by
  obtain ⟨rc, hg⟩ := arrOf_some ha
  simp only [arrSet, hg]

/-- **Maps**: a definite map accepts exactly `allocated` pairs, in order, and then refuses untouched. -/
theorem map_add_definite (ω : Oracle) (h : H) (m k v : Ref) (ps : List (Ref × Ref)) (al rc : Nat)
    (hg : h.get m = some ⟨.map true ps al, rc⟩) (hk : k ≠ m) (hv : v ≠ m) :
    (ps.length < al → (mapAdd ω h m k v).1 = true ∧ mapOf (mapAdd ω h m k v).2 m = some (true, ps ++ [(k, v)], al) ∧
        (mapAdd ω h m k v).2.reqs = h.reqs) ∧
    (al ≤ ps.length → mapAdd ω h m k v = (false, h)) := by
  obtain ⟨c1, c2, -⟩ := insert_cases ω Node.map (k, v) [k, v] hg (Or.inr rfl) decide_eq_true_iff nofun
  rw [mapAdd_eq hg]
  exact ⟨fun hl => (c1 hl).imp_right (.imp_left mapOf_iff.mpr), fun hl => c2 hl rfl⟩

theorem map_add_indefinite (ω : Oracle) (h : H) (m k v : Ref) (ps : List (Ref × Ref)) (al rc : Nat)
    (hg : h.get m = some ⟨.map false ps al, rc⟩) (hk : k ≠ m) (hv : v ≠ m) (hal : al < 2 ^ 58) :
    (ps.length < al → (mapAdd ω h m k v).1 = true ∧ mapOf (mapAdd ω h m k v).2 m = some (false, ps ++ [(k, v)], al) ∧
        (mapAdd ω h m k v).2.reqs = h.reqs) ∧
    (al ≤ ps.length → ω h.reqs = true → (mapAdd ω h m k v).1 = true ∧
        mapOf (mapAdd ω h m k v).2 m = some (false, ps ++ [(k, v)], growTo al) ∧ (mapAdd ω h m k v).2.reqs = h.reqs + 1) ∧
    (al ≤ ps.length → ω h.reqs = false → mapAdd ω h m k v = (false, { h with reqs := h.reqs + 1 })) := by
  obtain ⟨c1, -, c3, c4⟩ := insert_cases ω Node.map (k, v) [k, v] hg (Or.inr rfl) decide_eq_true_iff fun _ _ => hal
  rw [mapAdd_eq hg]
  exact ⟨fun hl => (c1 hl).imp_right (.imp_left mapOf_iff.mpr),
    fun hl hω => (c3 hl rfl hω).imp_right (.imp_left mapOf_iff.mpr), fun hl => c4 hl rfl⟩

/-- **Chunked strings**: a chunk of the same string type is appended; capacity grows by the doubling rule. -/
theorem add_chunk_spec (ω : Oracle) (h : H) (s c : Ref) (t : Bool) (cs : List Ref) (cap rc : Nat) (b : List UInt8) (rc' : Nat)
    (hs : h.get s = some ⟨.strI t cs cap, rc⟩) (hc : h.get c = some ⟨.str t b, rc'⟩) (hcap : cap < 2 ^ 58) (hlen : cs.length ≤ cap) :
    (cs.length < cap → (addChunk ω h s c).1 = true ∧ chunksOf (addChunk ω h s c).2 s = some (cs ++ [c], cap)) ∧
    (cs.length = cap → ω h.reqs = true → (addChunk ω h s c).1 = true ∧ chunksOf (addChunk ω h s c).2 s = some (cs ++ [c], growTo cap) ∧
        (addChunk ω h s c).2.reqs = h.reqs + 1) ∧
    (cs.length = cap → ω h.reqs = false → addChunk ω h s c = (false, { h with reqs := h.reqs + 1 })) := by
  obtain ⟨c1, -, c3, c4⟩ := insert_cases ω (fun _ => Node.strI t) (d := false) c [c] hs (Or.inl rfl)
    (decide_eq_true_iff.trans ⟨Nat.le_of_eq ∘ Eq.symm, Nat.le_antisymm hlen⟩) fun _ _ => hcap
  rw [addChunk_eq hs hc]
  exact ⟨fun hl => ⟨(c1 hl).1, chunksOf_iff.mpr ⟨t, (c1 hl).2.1⟩⟩,
    fun hl hω => (c3 (Nat.le_of_eq hl.symm) rfl hω).imp_right (.imp_left fun e => chunksOf_iff.mpr ⟨t, e⟩),
    fun hl => c4 (Nat.le_of_eq hl.symm) rfl⟩

theorem arrPush_refines (ω : Oracle) (h : H) (a x : Ref) (s : AbsArr) (hR : Rel .arr h a s)
    (hb : s.definite = false → s.cap ≤ s.items.length → s.cap < 2 ^ 58) :
    (arrPush ω h a x).1 = (s.push ω x).2 ∧ Rel .arr (arrPush ω h a x).2 a (s.push ω x).1 := by
  obtain ⟨d, cap, items, reqs⟩ := s
  obtain ⟨hA, rfl⟩ := hR
  obtain ⟨rc, hg⟩ := nodeOf_eq_some.mp hA
  rw [arrPush_eq hg]
  obtain ⟨e1, e2, -⟩ := insert_push ω Node.arr x [x] hg (Or.inl rfl) decide_eq_true_iff hb rfl
  exact ⟨e1, e2⟩

theorem mapAdd_refines (ω : Oracle) (h : H) (m k v : Ref) (s : AbsSeq (Ref × Ref)) (hR : Rel .map h m s)
    (hb : s.definite = false → s.cap ≤ s.items.length → s.cap < 2 ^ 58) :
    (mapAdd ω h m k v).1 = (s.push ω (k, v)).2 ∧ Rel .map (mapAdd ω h m k v).2 m (s.push ω (k, v)).1 := by
  obtain ⟨d, cap, items, reqs⟩ := s
  obtain ⟨hA, rfl⟩ := hR
  obtain ⟨rc, hg⟩ := nodeOf_eq_some.mp hA
  rw [mapAdd_eq hg]
  obtain ⟨e1, e2, -⟩ := insert_push ω Node.map (k, v) [k, v] hg (Or.inr rfl) decide_eq_true_iff hb rfl
  exact ⟨e1, e2⟩

/-- `c` is a live definite string of kind `t`: what `addChunk` accepts as a chunk of a string of that kind -/
def IsChunk (h : H) (t : Bool) (c : Ref) : Prop := ∃ b, nodeOf h c = some (.str t b)

/-- `addChunk` grows when size *equals* capacity, hence `hsz`. -/
theorem addChunk_refines (ω : Oracle) (h : H) (st c : Ref) (t : Bool) (s : AbsSeq Ref) (hR : Rel (fun _ => .strI t) h st s)
    (hd : s.definite = false) (hc : IsChunk h t c) (hsz : s.items.length ≤ s.cap) (hb : s.items.length < 2 ^ 58) :
    (addChunk ω h st c).1 = (s.push ω c).2 ∧ Rel (fun _ => .strI t) (addChunk ω h st c).2 st (s.push ω c).1 ∧
    ∀ c', IsChunk h t c' → IsChunk (addChunk ω h st c).2 t c' := by
  obtain ⟨d, cap, items, reqs⟩ := s
  cases hd
  obtain ⟨hA, rfl⟩ := hR
  obtain ⟨rc, hg⟩ := nodeOf_eq_some.mp hA
  obtain ⟨b, hcn⟩ := hc
  obtain ⟨rc', hgc⟩ := nodeOf_eq_some.mp hcn
  rw [addChunk_eq hg hgc]
  obtain ⟨e1, e2, -, e4, -⟩ := insert_push ω (fun _ => Node.strI t) c [c] hg (Or.inl rfl) (full := decide (items.length = cap))
    (by rw [decide_eq_true_iff]; exact ⟨Nat.le_of_eq ∘ Eq.symm, Nat.le_antisymm hsz⟩) (fun _ hl => Nat.lt_of_le_of_lt hl hb) rfl
  refine ⟨e1, e2, fun c' ⟨b', hc'⟩ => ⟨b', ?_⟩⟩
  rw [e4 c' (by intro e'; rw [e', hA] at hc'; cases hc')]
  exact hc'

/-- number of reallocations `n` successive insertions into an empty growing container cost -/
def reallocs : Nat → Nat
  | 0 => 0
  | k+1 => reallocs k + (if capFor k ≤ k then 1 else 0)

/-- capacity after `n` insertions: at least `n`, below `2n`, and doubling at every reallocation -/
theorem capFor_bounds : ∀ n, n ≤ capFor n ∧ (1 ≤ n → capFor n < 2 * n) ∧ (1 ≤ n → 2 ^ reallocs n = 2 * capFor n) ∧ (n = 0 → capFor n = 0)
  | 0 => by simp [capFor, reallocs]
  | k+1 => by
    obtain ⟨h1, h2, h3, h4⟩ := capFor_bounds k
    simp only [capFor, reallocs]
    by_cases hk : k = 0
    · subst hk; simp [capFor, reallocs]
    · have h2' := h2 (by omega)
      have h3' := h3 (by omega)
      by_cases c : capFor k ≤ k
      · have hc0 : capFor k ≠ 0 := by omega
        simp only [c, if_true, hc0, if_false]
        refine ⟨by omega, fun _ => by omega, fun _ => ?_, fun e => by omega⟩
        rw [Nat.pow_succ, h3']; omega
      · simp only [c, if_false]
        refine ⟨by omega, fun _ => by omega, fun _ => ?_, fun e => by omega⟩
        simpa using h3'

/-- **Logarithmic cost**: `n ≥ 1` insertions cost `r` reallocations with `2^r < 4n`, i.e. `r ≤ log₂ n + 1`. -/
theorem C12_logarithmic (n : Nat) (hn : 1 ≤ n) : 2 ^ reallocs n < 4 * n := by
  obtain ⟨_, h2, h3, _⟩ := capFor_bounds n
  rw [h3 hn]; have := h2 hn; omega

def grantAll : Oracle := fun _ => true

namespace AbsSeq
variable {α : Type}

/-- the state of an indefinite container that started empty when `r0` requests had been made and has been
granted every growth since: capacity and requests are functions of the size alone -/
def Geometric (r0 : Nat) (s : AbsSeq α) : Prop :=
  s.definite = false ∧ s.cap = capFor s.items.length ∧ s.reqs = r0 + reallocs s.items.length

theorem geometric_empty (r0 : Nat) : Geometric r0 (⟨false, 0, [], r0⟩ : AbsSeq α) := ⟨rfl, rfl, rfl⟩

theorem push_geometric {r0 : Nat} {s : AbsSeq α} (x : α) (hG : Geometric r0 s) :
    Geometric r0 (s.push grantAll x).1 ∧ (s.push grantAll x).2 = true := by
  obtain ⟨d, cap, items, reqs⟩ := s
  obtain ⟨hd, hc, hr⟩ := hG
  simp only at hd hc hr
  subst hd
  unfold push Geometric
  by_cases hlt : items.length < cap
  · simp only [hlt, if_true, List.length_append, List.length_singleton, capFor, reallocs]
    have hn : ¬ capFor items.length ≤ items.length := by omega
    simp only [hn, if_false]
    exact ⟨⟨trivial, hc, hr⟩, trivial⟩
  · simp only [hlt, if_false, grantAll, if_true, Bool.false_eq_true, List.length_append, List.length_singleton, capFor, reallocs]
    have hn : capFor items.length ≤ items.length := by omega
    simp only [hn, if_true]
    refine ⟨⟨trivial, ?_, by omega⟩, trivial⟩
    rw [hc]; rfl

end AbsSeq

def pushN (h : H) (a x : Ref) : Nat → H
  | 0 => h
  | k+1 => (arrPush (fun _ => true) (pushN h a x k) a x).2

/-- **The array follows the growth rule**: after `n` pushes into an empty indefinite array its contents are
`n` copies of the pushed reference, its capacity is `capFor n ≥ n`, and exactly `reallocs n` allocator
requests were made. -/
theorem C12_growth (h : H) (a x : Ref) (rc : Nat) (hg : h.get a = some ⟨.arr false [] 0, rc⟩) (hx : x ≠ a) (cx : Cell) (hgx : h.get x = some cx) :
    ∀ n, n < 2 ^ 57 →
      arrOf (pushN h a x n) a = some (false, List.replicate n x, capFor n) ∧ (pushN h a x n).reqs = h.reqs + reallocs n ∧
      ∃ rc', (pushN h a x n).get a = some ⟨.arr false (List.replicate n x) (capFor n), rc'⟩ := by
  -- the array after `n` pushes is described by an abstract list in a geometric state that holds `n` copies of `x`;
  -- `n < 2 ^ 57` keeps every capacity on the way (`capFor k < 2 * k`) below the `2 ^ 58` of `insert_push`
  have key : ∀ n, n < 2 ^ 57 →
      ∃ s : AbsArr, Rel .arr (pushN h a x n) a s ∧ s.Geometric h.reqs ∧ s.items = List.replicate n x := by
    intro n
    induction n with
    | zero => exact fun _ => ⟨⟨false, 0, [], h.reqs⟩, ⟨nodeOf_eq_some.mpr ⟨rc, hg⟩, rfl⟩, AbsSeq.geometric_empty _, rfl⟩
    | succ k ih =>
      intro hk
      obtain ⟨s, hR, hG, hi⟩ := ih (by omega)
      have hlen : s.items.length = k := by rw [hi, List.length_replicate]
      obtain ⟨hG', hok⟩ := AbsSeq.push_geometric x hG
      exact ⟨_, (arrPush_refines grantAll _ a x s hR (fun _ _ => by omega)).2, hG',
        by rw [AbsSeq.push_ok_items _ s x hok, hi, List.replicate_succ']⟩
  intro n hn
  obtain ⟨s, hR, hG, hi⟩ := key n hn
  have hA : nodeOf (pushN h a x n) a = some (.arr false (List.replicate n x) (capFor n)) := by
    rw [hR.1, hG.1, hG.2.1, hi, List.length_replicate]
  exact ⟨arrOf_iff.mpr hA, by rw [hR.2, hG.2.2, hi, List.length_replicate], nodeOf_eq_some.mp hA⟩

example : capFor 5 = 8 ∧ reallocs 5 = 4 ∧ capFor 100 = 128 ∧ reallocs 100 = 8 := by decide +kernel

end Props.C12
