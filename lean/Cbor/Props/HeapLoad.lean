import Cbor.Lemmas.HeapBuilder
import Cbor.Lemmas.Indep
/-!
# `cbor_load` at heap level: what the incremental builder leaves behind (clauses of C01, C02, C05, C06)

`HB.load` (Model/HeapBuilder.lean) mirrors the builder callbacks and the `cbor_load` loop of the C code on the heap model:
items with reference counts, the decoding stack, every `cbor_decref` and the clean-up loop of the error exit.  It is tied to the
C code by the `LOAD` correspondence (the model predicts the live allocator blocks after every load, whether every node has
count one, and the blocks left after releasing the result, under every fault schedule).  `HB.hload_refines'` proves that it
refines the value-level model `Model.load` (which `Props.C02` proves equal to the RFC reference decoder) for **every** allocator
oracle.  The corollaries here are the heap-level clauses of the properties.
-/
namespace Props.HeapLoad
open Heap

/-- C02: what `cbor_load` reports is what the value-level model reports, with the same allocator requests. -/
theorem hload_result (ω : Oracle) (L : Nat) (h : H) (r0 : Model.LoadResult) (src : Array UInt8) (hsz : src.size < 2 ^ 64 - 1) :
    (HB.load ω L h src).2.1 = (Model.load (fun i _ => ω (h.reqs + i)) L r0 src).result ∧
    (HB.load ω L h src).2.2.reqs = h.reqs + (Model.load (fun i _ => ω (h.reqs + i)) L r0 src).reqs ∧
    (HB.load ω L h src).2.2.fault = h.fault := by
  have := HB.hload_refines' ω L h r0 src hsz
  exact ⟨this.result, this.reqs, this.fault⟩

/-- The tree handed out is owned solely by the caller (C02): when the load succeeds with the tree `t`, the result is an
exclusively owned tree for `t` laid out in exactly the cells the load created — every node has reference count one, no node
is used twice, no pre-existing cell is part of it or was touched, and the tree holds copies of the string payloads (the model's
items contain their bytes: nothing refers to the input buffer). -/
theorem loaded_tree_owned (ω : Oracle) (L : Nat) (h : H) (r0 : Model.LoadResult) (src : Array UInt8) (hsz : src.size < 2 ^ 64 - 1)
    (t : Spec.Item) (ht : (Model.load (fun i _ => ω (h.reqs + i)) L r0 src).item = some t) :
    (∀ x : Nat, x < h.cells.length → (HB.load ω L h src).2.2.get x = h.get x) ∧
    ∃ y, (HB.load ω L h src).1 = some y ∧ Own t (HB.load ω L h src).2.2 y h.cells.length (HB.load ω L h src).2.2.cells.length := by
  have := HB.hload_refines' ω L h r0 src hsz
  exact ⟨fun x hx => this.old x hx, this.granted ht⟩

/-- A failed load leaves nothing allocated (C05, C06, C01): whenever the load fails — truncated or empty input, reserved
byte, syntax error, nesting limit, an allocation refused at any point of any schedule — NULL is returned and every cell the
builder created on the way (items, partially built containers on the decoding stack, a pending map key) has been released: the
heap reads exactly as before the call and the same number of allocator blocks is live. -/
theorem failed_load_clean (ω : Oracle) (L : Nat) (h : H) (r0 : Model.LoadResult) (src : Array UInt8) (hsz : src.size < 2 ^ 64 - 1)
    (hf : (Model.load (fun i _ => ω (h.reqs + i)) L r0 src).item = none) :
    (HB.load ω L h src).1 = none ∧ (∀ r : Nat, (HB.load ω L h src).2.2.get r = h.get r) ∧
    (HB.load ω L h src).2.2.liveBlocks = h.liveBlocks ∧ (HB.load ω L h src).2.2.fault = h.fault := by
  have := HB.hload_refines' ω L h r0 src hsz
  have h5 := this.refused hf
  have hall := ((Freed.empty _ _).restores this.old h5.2).2
  exact ⟨h5.1, hall, liveBlocks_of_get_eq hall, this.fault⟩

/-- the two outcomes are exhaustive: an item, or NULL — there is no third outcome such as a partially built item -/
theorem load_dichotomy (ω : Oracle) (L : Nat) (h : H) (r0 : Model.LoadResult) (src : Array UInt8) (hsz : src.size < 2 ^ 64 - 1) :
    (∃ t y, (Model.load (fun i _ => ω (h.reqs + i)) L r0 src).item = some t ∧ (HB.load ω L h src).1 = some y ∧
        Own t (HB.load ω L h src).2.2 y h.cells.length (HB.load ω L h src).2.2.cells.length ∧ (HB.load ω L h src).2.1.code = .none) ∨
    ((HB.load ω L h src).1 = none ∧ (HB.load ω L h src).2.1.code ≠ .none ∧ ∀ r : Nat, (HB.load ω L h src).2.2.get r = h.get r) := by
  have hs := Lemmas.Safe.load_safe (fun i _ => ω (h.reqs + i)) L r0 src hsz
  have hr := hload_result ω L h r0 src hsz
  rcases hs.2 with ⟨x, hx, hc⟩ | ⟨hn, hc⟩
  · left
    obtain ⟨_, y, hy, ho⟩ := loaded_tree_owned ω L h r0 src hsz x hx
    exact ⟨x, y, hx, hy, ho, by rw [hr.1]; exact hc⟩
  · right
    have := failed_load_clean ω L h r0 src hsz hn
    exact ⟨this.1, by rw [hr.1]; exact hc, this.2.1⟩

/-- Releasing a decoded tree (C01, C04): `cbor_decref` on the result of a successful load releases exactly the cells the load
created — afterwards the heap reads exactly as it did before the load; no fault (no use after release, no double release) -/
theorem release_loaded (ω : Oracle) (L : Nat) (h : H) (r0 : Model.LoadResult) (src : Array UInt8) (hsz : src.size < 2 ^ 64 - 1)
    (y : Ref) (hy : (HB.load ω L h src).1 = some y) :
    ((HB.load ω L h src).2.2.decref y).fault = h.fault ∧ ∀ r : Nat, ((HB.load ω L h src).2.2.decref y).get r = h.get r := by
  have href := HB.hload_refines' ω L h r0 src hsz
  cases hi : (Model.load (fun i _ => ω (h.reqs + i)) L r0 src).item with
  | none => rw [(href.refused hi).1] at hy; cases hy
  | some t =>
    obtain ⟨y', hy', ho⟩ := href.granted hi
    rw [hy] at hy'; cases hy'
    have hr := (hdecref_own ho (Nat.le_refl _)).restores href.old (get_none_of_ge _)
    exact ⟨hr.1.trans href.fault, hr.2⟩

/-- the decoded tree denotes `t` on the heap (`Den`), so the heap-level operations a client then performs on it — size,
serialize (functions of the denoted tree), copy (`Props.C11.C11_copy`), release (`release_loaded`) — are covered by their theorems -/
theorem loaded_tree_denotes (ω : Oracle) (L : Nat) (h : H) (r0 : Model.LoadResult) (src : Array UInt8) (hsz : src.size < 2 ^ 64 - 1)
    (t : Spec.Item) (ht : (Model.load (fun i _ => ω (h.reqs + i)) L r0 src).item = some t) :
    ∃ y, (HB.load ω L h src).1 = some y ∧ Den t (HB.load ω L h src).2.2 y := by
  obtain ⟨_, y, hy, ho⟩ := loaded_tree_owned ω L h r0 src hsz t ht
  exact ⟨y, hy, own_den t y _ _ ho⟩

end Props.HeapLoad
