import Cbor.Gen.MemoryUtils
import Cbor.Gen.Effects
import Cbor.Gen.HeaderSize
import Cbor.Lemmas.UInt
import Cbor.Lemmas.Tactics
/-!
# C20 — size arithmetic never wraps

Theorems over the **generated** `memory_utils.c` definitions (`Gen.*`, regenerated from /repo on
every run), quantified over every 64-bit operand (2^128 pairs), no bound; the size of an encoded head
(`_cbor_encoded_header_size`); and the census of allocation call sites: every size argument is guarded.
-/
-- the simp sets also name the lemmas for other spellings of the generated loop and guards (`/` for `>>`, swapped
-- branches); some are unused on any one translation
set_option linter.unusedSimpArgs false
namespace Props.C20
open Gen Lemmas

/-- invariant of the generated highest-bit loop: with enough fuel it terminates normally (ok flag set,
exit code 0) and adds exactly the number of binary digits of `number` to `bit` -/
theorem hbit_loop (fuel : Nat) (number bit : UInt64)
    (hf : number.toNat < 2 ^ fuel) (hb : bit.toNat + fuel < 2 ^ 64) :
    let r := _cbor_highest_bit.loop0 (fuel + 1) number bit
    r.2.2 = true ∧ r.2.1 = 0 ∧ r.1.2.toNat = bit.toNat + bitlen number.toNat := by
  -- independent of the spelling of the loop (`!= 0` / `> 0`, `>>= 1` / `/= 2`, `bit++` / `bit += 1`, branch order):
  -- one step is unfolded, the guard is read as a fact about `number.toNat`, and the recursive call — whatever its
  -- argument terms are — is only required to be on ⌊number/2⌋ and bit+1 *as natural numbers*
  induction fuel generalizing number bit with
  | zero =>
    rw [_cbor_highest_bit.loop0]
    simp only []
    split <;> cnorm <;> (try omega)
    have : number.toNat = 0 := by omega
    simp [this, bitlen]
  | succ k ih =>
    rw [_cbor_highest_bit.loop0]
    simp only []
    split <;> cnorm
    all_goals first
      | (have hz : number.toNat = 0 := by omega
         simp [hz, bitlen]
         done)
      | (have hnn : number.toNat ≠ 0 := by omega
         have key : ∀ (n' b' : UInt64) (r : (UInt64 × UInt64) × Nat × Bool), _cbor_highest_bit.loop0 (k + 1) n' b' = r →
             n'.toNat = number.toNat / 2 → b'.toNat = bit.toNat + 1 →
             r.2.2 = true ∧ r.2.1 = 0 ∧ r.1.2.toNat = bit.toNat + bitlen number.toNat := by
           intro n' b' r hr hn hb'
           have := ih n' b' (by rw [hn]; rw [Nat.pow_succ] at hf; omega) (by omega)
           rw [hr] at this
           obtain ⟨h1, h2, h3⟩ := this
           refine ⟨h1, h2, ?_⟩
           rw [h3, hn, hb', bitlen_pos _ hnn]; omega
         generalize hn' : _cbor_highest_bit.loop0 _ _ _ = r
         have := key _ _ _ hn' (by simp [UInt64.toNat_shiftRight, UInt64.toNat_div, Nat.shiftRight_eq_div_pow])
           (by rw [UInt64.toNat_add]; simp; omega)
         simp [this.1, this.2.1, this.2.2]
         done)

/-- `_cbor_highest_bit n` is the bit length of `n`, and its translation has no failing side condition
(in particular the translator's fuel of 65 iterations suffices). -/
theorem C20_hbit (n : UInt64) :
    (_cbor_highest_bit n).toNat = bitlen n.toNat ∧ _cbor_highest_bit.ok n = true := by
  have h := hbit_loop 64 n 0 (by have := n.toNat_lt; omega) (by simp)
  simp only at h
  obtain ⟨h1, _, h3⟩ := h
  exact ⟨by simpa [_cbor_highest_bit] using h3, by simpa [_cbor_highest_bit.ok] using h1⟩

theorem C20_hbit_log2 (n : UInt64) :
    (_cbor_highest_bit n).toNat = if n = 0 then 0 else Nat.log2 n.toNat + 1 := by
  rw [(C20_hbit n).1]
  by_cases h : n = 0
  · subst h; simp
  · have hnn : n.toNat ≠ 0 := fun h' => h (UInt64.toNat_inj.mp (by simpa using h'))
    simp [h, bitlen_eq_log2 _ hnn]

/-- what the generated guard computes, for all 2^128 operand pairs -/
theorem mul_guard_iff (a b : UInt64) :
    _cbor_safe_to_multiply a b = true ↔ (a.toNat ≤ 1 ∨ b.toNat ≤ 1 ∨ bitlen a.toNat + bitlen b.toNat ≤ 64) := by
  -- shape-independent: every `if` of the generated guard is split and every condition is read over `Nat`, so it does not
  -- matter whether "an operand ≤ 1" is an early return or one disjunct of a single `||` chain
  have ha := (C20_hbit a).1
  have hb := (C20_hbit b).1
  have hla : bitlen a.toNat ≤ 64 := bitlen_le_of_lt_two_pow _ _ a.toNat_lt
  have hlb : bitlen b.toNat ≤ 64 := bitlen_le_of_lt_two_pow _ _ b.toNat_lt
  unfold _cbor_safe_to_multiply
  simp only []
  repeat' split
  all_goals cnorm
  all_goals (try simp only [UInt64.toNat_add, UInt64.toNat_shiftLeft, ha, hb, true_iff, eq_self] at *)
  all_goals omega

/-- the multiplication guard is sound for all 2^128 operand pairs: whenever it says "safe", the
mathematical product fits in `size_t` -/
theorem C20_mul_sound (a b : UInt64) (h : _cbor_safe_to_multiply a b = true) :
    a.toNat * b.toNat < 2 ^ 64 := by
  have ha := a.toNat_lt
  have hb := b.toNat_lt
  rcases (mul_guard_iff a b).mp h with h | h | h
  · exact Nat.lt_of_le_of_lt (Nat.mul_le_mul_right _ h) (by omega)
  · exact Nat.lt_of_le_of_lt (Nat.mul_le_mul_left _ h) (by omega)
  · exact mul_lt_of_bitlen _ _ h

theorem C20_mul_ok (a b : UInt64) : _cbor_safe_to_multiply.ok a b = true := by
  unfold _cbor_safe_to_multiply.ok
  simp only []
  repeat' split
  all_goals simp [(C20_hbit a).2, (C20_hbit b).2]

/-- the multiplication guard never refuses a product that is at most half the address space
(so it is not vacuously sound by refusing everything) -/
theorem C20_mul_complete_half (a b : UInt64) (h : a.toNat * b.toNat < 2 ^ 63) :
    _cbor_safe_to_multiply a b = true := by
  rw [mul_guard_iff]
  by_cases ha : a.toNat ≤ 1
  · exact Or.inl ha
  · by_cases hb : b.toNat ≤ 1
    · exact Or.inr (Or.inl hb)
    · exact Or.inr (Or.inr (bitlen_add_le_of_mul_lt _ _ (by omega) (by omega) h))

/-- the addition guard is exact -/
theorem C20_add_exact (a b : UInt64) :
    _cbor_safe_to_add a b = true ↔ a.toNat + b.toNat < 2 ^ 64 := by
  -- robust against the shape of the comparison(s): everything is pushed to natural numbers and left to `omega`
  unfold _cbor_safe_to_add
  have ha := a.toNat_lt
  have hb := b.toNat_lt
  simp only []
  repeat' split
  all_goals cnorm
  all_goals (try simp only [UInt64.toNat_add, Bool.false_eq_true, eq_self, true_iff, false_iff] at *)
  all_goals omega

/-- the signalling sum is the exact mathematical sum, or 0 when an operand is 0 or the sum does not fit -/
theorem C20_sadd (a b : UInt64) :
    (_cbor_safe_signaling_add a b).toNat =
      if a = 0 ∨ b = 0 ∨ a.toNat + b.toNat ≥ 2 ^ 64 then 0 else a.toNat + b.toNat := by
  have hx := C20_add_exact a b
  have hal := a.toNat_lt
  have hbl := b.toNat_lt
  unfold _cbor_safe_signaling_add
  simp only [hx]
  repeat' split
  all_goals cnorm
  all_goals (try simp only [UInt64.toNat_add] at *)
  all_goals omega

theorem C20_sadd_ok (a b : UInt64) : _cbor_safe_signaling_add.ok a b = true := by
  unfold _cbor_safe_signaling_add.ok _cbor_safe_to_add.ok
  simp only []
  repeat' split
  all_goals simp

/-- header size is the length of the shortest RFC 8949 head for the argument (1, 2, 3, 5 or 9 bytes) -/
theorem C20_header_size (n : UInt64) :
    (_cbor_encoded_header_size n).toNat =
      if n.toNat ≤ 23 then 1 else if n.toNat ≤ 255 then 2 else if n.toNat ≤ 65535 then 3
      else if n.toNat ≤ 4294967295 then 5 else 9 := by
  -- conditions are normalised first, so that the two cascades split together
  unfold _cbor_encoded_header_size
  cnorm
  repeat' split
  all_goals first | rfl | omega

-- non-vacuity: concrete instances of the hypotheses and of both guard outcomes
example : _cbor_safe_to_multiply 0x80000000 0xFFFFFFFF = true := by decide +kernel
example : _cbor_safe_to_multiply 0x100000000 0x100000000 = false := by decide +kernel
example : _cbor_safe_to_add 0xFFFFFFFFFFFFFFFF 1 = false := by decide
example : _cbor_safe_signaling_add 0xFFFFFFFFFFFFFFF0 0x10 = 0 := by decide
example : _cbor_highest_bit 0xFFFFFFFFFFFFFFFF = 64 := by decide +kernel

section sites
open Gen.Effects

def isIdent (s : String) : Bool := !s.toList.isEmpty && s.toList.all fun c => c.isAlphanum || c == '_'
/-- `sizeof(T)` or `sizeof(T) + k` for a small literal k: a compile-time constant -/
def isSizeof (s : String) : Bool :=
  "sizeof(".toList.isPrefixOf s.toList &&
    (")".toList.isSuffixOf s.toList || [" + 1", " + 2", " + 4", " + 8"].any fun t => t.toList.isSuffixOf s.toList)

/-- an argument that is just the name of a `const`-qualified local of that function — declared exactly once there
(`Gen.Effects.constLocals` lists only such names), hence never assigned after its initialisation — stands for the expression
it was initialised with: `const size_t total = item_size * item_count; _cbor_realloc(pointer, total)` is judged as
`_cbor_realloc(pointer, item_size * item_count)`, not waved through as "a plain variable". -/
def resolveArg (f a : String) : String :=
  match constLocals.filter (fun e => e.1 == f && e.2.1 == a) with
  | [e] => e.2.2
  | _ => a

/-- the rule proper, on argument texts in which `const` locals have been replaced by their initialisers -/
def okSiteResolved (site : String × String × List String) : Bool :=
  match site with
  | (f, "_cbor_malloc", [a]) => isSizeof a || isIdent a || (f == "_cbor_alloc_multiple" && a == "item_size * item_count")
  | (f, "_cbor_realloc", [p, a]) => f == "_cbor_realloc_multiple" && p == "pointer" && a == "item_size * item_count"
  | (_, "_cbor_alloc_multiple", [sz, n]) => isSizeof sz && isIdent n
  | (_, "_cbor_realloc_multiple", [_, sz, n]) => isSizeof sz && isIdent n
  | (_, "_cbor_free", _) => true
  | _ => false

/-- an allocation call site is *guarded* when the byte count it passes (a `const` local being read as the expression that
initialises it, see `resolveArg`) is a compile-time constant, a length the
caller already holds in a `size_t` (no arithmetic at the site), or — only inside the two `*_multiple` helpers,
behind their `_cbor_safe_to_multiply` guard — the product `item_size * item_count`; and when the `*_multiple`
helpers receive an element size that is a `sizeof` and a count that is a plain variable -/
def okSite (site : String × String × List String) : Bool :=
  okSiteResolved (site.1, site.2.1, site.2.2.map (resolveArg site.1))

/-- **No arithmetic at allocation sites.**  Every allocator call in the library (the census regenerated from
the sources on this run) is guarded in the sense above: products are formed only inside the guarded helpers. -/
theorem C20_alloc_sites_guarded : allocSites.all okSite = true ∧ 40 ≤ allocSites.length := by decide +kernel

end sites

end Props.C20
