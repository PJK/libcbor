import Cbor.Lemmas.PubEncoders
import Cbor.Lemmas.SdSpec
/-!
# C10 — low-level encoders and the streaming decoder are exact inverses

Over the **generated** encoders (`Gen.Encoding`, `Gen.Encoders`) and the **generated** streaming decoder.
`Lemmas.encRes buf off n bs` is "write the bytes `bs` at `off` if they fit in `n` bytes (returning their
number), else return 0 and leave the buffer alone"; `Spec.headBytes mt ai v` / `Spec.head mt v` are the
RFC 8949 heads (explicit width / shortest).  Values range over the whole domain of each encoder.
-/
namespace Props.C10
open Gen Lemmas

/-- **C10, bytes.**  Every `cbor_encode_*` except `cbor_encode_half` (treated in `Lemmas/Half.lean` and `Props/C15.lean`)
emits exactly the RFC 8949 head for its value: big-endian; the
16/32/64-bit variants at their named width (additional information 25/26/27); the 8-bit variants immediate
up to 23 and with a one-byte argument above; the width-agnostic variants in the shortest form. -/
theorem C10_bytes (buf : Array UInt8) (off : Nat) (n : UInt64) :
    (∀ v, cbor_encode_uint8 v buf off n = encRes buf off n (Spec.headBytes 0 (ai8 v.toNat) v.toNat)) ∧
    (∀ v, cbor_encode_uint16 v buf off n = encRes buf off n (Spec.headBytes 0 25 v.toNat)) ∧
    (∀ v, cbor_encode_uint32 v buf off n = encRes buf off n (Spec.headBytes 0 26 v.toNat)) ∧
    (∀ v, cbor_encode_uint64 v buf off n = encRes buf off n (Spec.headBytes 0 27 v.toNat)) ∧
    (∀ v, cbor_encode_uint v buf off n = encRes buf off n (Spec.head 0 v.toNat)) ∧
    (∀ v, cbor_encode_negint8 v buf off n = encRes buf off n (Spec.headBytes 1 (ai8 v.toNat) v.toNat)) ∧
    (∀ v, cbor_encode_negint16 v buf off n = encRes buf off n (Spec.headBytes 1 25 v.toNat)) ∧
    (∀ v, cbor_encode_negint32 v buf off n = encRes buf off n (Spec.headBytes 1 26 v.toNat)) ∧
    (∀ v, cbor_encode_negint64 v buf off n = encRes buf off n (Spec.headBytes 1 27 v.toNat)) ∧
    (∀ v, cbor_encode_negint v buf off n = encRes buf off n (Spec.head 1 v.toNat)) ∧
    (∀ v, cbor_encode_bytestring_start v buf off n = encRes buf off n (Spec.head 2 v.toNat)) ∧
    (∀ v, cbor_encode_string_start v buf off n = encRes buf off n (Spec.head 3 v.toNat)) ∧
    (∀ v, cbor_encode_array_start v buf off n = encRes buf off n (Spec.head 4 v.toNat)) ∧
    (∀ v, cbor_encode_map_start v buf off n = encRes buf off n (Spec.head 5 v.toNat)) ∧
    (∀ v, cbor_encode_tag v buf off n = encRes buf off n (Spec.head 6 v.toNat)) ∧
    (∀ v, cbor_encode_ctrl v buf off n = encRes buf off n (Spec.headBytes 7 (ai8 v.toNat) v.toNat)) ∧
    (cbor_encode_indef_bytestring_start buf off n = encRes buf off n [0x5F]) ∧
    (cbor_encode_indef_string_start buf off n = encRes buf off n [0x7F]) ∧
    (cbor_encode_indef_array_start buf off n = encRes buf off n [0x9F]) ∧
    (cbor_encode_indef_map_start buf off n = encRes buf off n [0xBF]) ∧
    (cbor_encode_break buf off n = encRes buf off n [0xFF]) ∧
    (cbor_encode_null buf off n = encRes buf off n [0xF6]) ∧
    (cbor_encode_undef buf off n = encRes buf off n [0xF7]) ∧
    (∀ b, cbor_encode_bool b buf off n = encRes buf off n [if b then 0xF5 else 0xF4]) ∧
    (∀ v, cbor_encode_single v buf off n = encRes buf off n (Spec.headBytes 7 26 (canon32 v).toNat)) ∧
    (∀ v, cbor_encode_double v buf off n = encRes buf off n (Spec.headBytes 7 27 (canon64 v).toNat)) :=
  ⟨pub_uint8 _ _ _, pub_uint16 _ _ _, pub_uint32 _ _ _, pub_uint64 _ _ _, pub_uint _ _ _,
   pub_negint8 _ _ _, pub_negint16 _ _ _, pub_negint32 _ _ _, pub_negint64 _ _ _, pub_negint _ _ _,
   pub_bytestring_start _ _ _, pub_string_start _ _ _, pub_array_start _ _ _, pub_map_start _ _ _, pub_tag _ _ _,
   pub_ctrl _ _ _, pub_indef_bytestring_start _ _ _, pub_indef_string_start _ _ _, pub_indef_array_start _ _ _,
   pub_indef_map_start _ _ _, pub_break _ _ _, pub_null _ _ _, pub_undef _ _ _, pub_bool _ _ _,
   pub_single _ _ _, pub_double _ _ _⟩

/-- the shortest form really is the shortest: no head with a smaller additional-information class carries `v` -/
theorem C10_shortest (v : Nat) (hv : v < 2 ^ 64) :
    let ai := Spec.shortestAi v
    (ai < 24 → v = ai) ∧ (ai = 24 → 24 ≤ v ∧ v < 256) ∧ (ai = 25 → 256 ≤ v ∧ v < 65536) ∧
    (ai = 26 → 65536 ≤ v ∧ v < 4294967296) ∧ (ai = 27 → 4294967296 ≤ v) ∧ ai ≤ 27 := by
  unfold Spec.shortestAi
  repeat' split
  all_goals omega

theorem getA_writeList (buf : Array UInt8) (off : Nat) (bs : List UInt8) (hb : off + bs.length ≤ buf.size)
    (i : Nat) (hi : i < bs.length) : Spec.getA (writeList buf off bs) off i = bs[i] := by
  have := writeList_getElem? buf off bs i hi hb
  simp only [Spec.getA, Array.getD_eq_getD_getElem?, this]
  simp [hi]

/-- **C10, inverse (major types 0..6).**  Decoding the head `headBytes mt ai v` written by an encoder gives
FINISHED with exactly one callback denoting `(mt, ai, v)` — same kind, same width, identical value — and
`read` = the number of bytes written (plus the payload for definite strings, once present). -/
theorem C10_inverse_arg (mt ai v : Nat) (hmt : mt < 7) (hai : ai ≤ 27)
    (hv : if ai < 24 then v = ai else v < 256 ^ Spec.argBytes ai)
    (buf : Array UInt8) (off : Nat) (n : UInt64) (h : off + n.toNat ≤ buf.size)
    (hn : (Spec.headBytes mt ai v).length ≤ n.toNat) (hl : n.toNat < 2 ^ 64 - 1) :
    SdRel off (cbor_stream_decode (writeList buf off (Spec.headBytes mt ai v)) off n)
      (Spec.tokOfArg mt ai v (Spec.headBytes mt ai v).length n.toNat) := by
  have := sd_spec (writeList buf off (Spec.headBytes mt ai v)) off n hl
  rwa [Spec.decodeHead_headBytes hmt hai hv
    (fun i hi => getA_writeList buf off _ (by omega) i hi) hn] at this

/-- **C10, inverse (floats).**  Decoding the head `headBytes 7 ai v` written by a float encoder (`ai` = 25, 26, 27: half,
single, double) gives FINISHED with exactly one callback, the float callback of that width carrying the bits `v` (for a
half: the `float` that `_cbor_decode_half` makes of them), and `read` = the 3, 5 or 9 bytes written. -/
theorem C10_inverse_float (ai v : Nat) (hai : ai = 25 ∨ ai = 26 ∨ ai = 27) (hv : v < 256 ^ Spec.argBytes ai)
    (buf : Array UInt8) (off : Nat) (n : UInt64) (h : off + n.toNat ≤ buf.size)
    (hn : (Spec.headBytes 7 ai v).length ≤ n.toNat) (hl : n.toNat < 2 ^ 64 - 1) :
    SdRel off (cbor_stream_decode (writeList buf off (Spec.headBytes 7 ai v)) off n)
      (.ok (if ai = 25 then .half v else if ai = 26 then .single v else .double v) (1 + Spec.argBytes ai)) := by
  have := sd_spec (writeList buf off (Spec.headBytes 7 ai v)) off n hl
  rwa [Spec.decodeHead_float hai hv
    (fun i hi => getA_writeList buf off _ (by omega) i hi) hn] at this

/-- **C10, inverse (one-byte heads)**: false, true, null, undefined, break and the indefinite starts. -/
theorem C10_inverse_byte (b : UInt8) (buf : Array UInt8) (off : Nat) (n : UInt64) (h : off + n.toNat ≤ buf.size)
    (hn : 1 ≤ n.toNat) (hl : n.toNat < 2 ^ 64 - 1) :
    let d := cbor_stream_decode (writeList buf off [b]) off n
    (b = 0xF4 → SdRel off d (.ok (.bool false) 1)) ∧ (b = 0xF5 → SdRel off d (.ok (.bool true) 1)) ∧
    (b = 0xF6 → SdRel off d (.ok .null 1)) ∧ (b = 0xF7 → SdRel off d (.ok .undefined 1)) ∧
    (b = 0xFF → SdRel off d (.ok .brk 1)) ∧ (b = 0x5F → SdRel off d (.ok .bytesStart 1)) ∧
    (b = 0x7F → SdRel off d (.ok .textStart 1)) ∧ (b = 0x9F → SdRel off d (.ok .arrayStart 1)) ∧
    (b = 0xBF → SdRel off d (.ok .mapStart 1)) := by
  intro d
  have hs := sd_spec (writeList buf off [b]) off n hl
  have hg : Spec.getA (writeList buf off [b]) off 0 = b := by
    have := getA_writeList buf off [b] (by simp; omega) 0 (by simp)
    simpa using this
  have hd (t : Spec.Tok) (hb : Spec.decodeHead (fun _ => b) 1 = .ok t 1) : SdRel off d (.ok t 1) := by
    rw [← Spec.decodeHead_byte hb hg hn]; exact hs
  refine ⟨?_, ?_, ?_, ?_, ?_, ?_, ?_, ?_, ?_⟩ <;> rintro rfl <;> exact hd _ rfl

/-- other simple values are still *encoded* per the RFC (C10_bytes, `cbor_encode_ctrl`) but are not decodable:
the decoder reports ERROR for unassigned simple values and for the one-byte-extension form -/
theorem C10_ctrl_undecodable (get : Nat → UInt8) (len : Nat) (hl : 1 ≤ len)
    (h : (get 0).toNat / 32 = 7 ∧ ((get 0).toNat % 32 < 20 ∨ (get 0).toNat % 32 = 24)) :
    Spec.decodeHead get len = .error :=
  Spec.decodeHead_reserved hl rfl rfl (Or.inl ⟨h.1, by omega, by omega⟩)

-- non-vacuity / concrete instances (kernel-evaluated on the generated code)
example : (cbor_encode_uint 65535 (Array.replicate 5 0xAA) 0 5) = (3, #[0x19, 0xFF, 0xFF, 0xAA, 0xAA]) := by decide +kernel
example : (cbor_encode_uint 65536 (Array.replicate 5 0xAA) 0 5) = (5, #[0x1A, 0x00, 0x01, 0x00, 0x00]) := by decide +kernel
example : (cbor_encode_negint8 24 (Array.replicate 2 0xAA) 0 2) = (2, #[0x38, 0x18]) := by decide +kernel
example : (cbor_stream_decode #[0x38, 0x18] 0 2) = ({ read := 2, status := 0, required := 0 }, [Event.negint8 24]) := by decide +kernel
example : (cbor_stream_decode #[0xBB, 0, 0, 0, 1, 0, 0, 0, 2] 0 9).2 = [Event.map_start 0x100000002] := by decide +kernel

end Props.C10
