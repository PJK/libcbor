import Cbor.Lemmas.SdSpec
import Cbor.Spec.HeadLemmas
/-!
# C08 — each streaming-decoder call obeys its status / read / required contract

Theorems over the **generated** `Gen.cbor_stream_decode` (regenerated from streaming.c / loaders.c on every
run), related to the RFC 8949 head reader `Spec.decodeHead`.  The generated function returns the result
struct *and* the list of callback invocations, so "exactly one callback" / "no callback" are statements
about that list.  Quantified over every buffer (every content, every length below SIZE_MAX; the proofs go through for
length SIZE_MAX as well).
-/
namespace Props.C08
open Gen Lemmas

/-- **The contract.**  One call does exactly one of three things, according to what RFC 8949 says about
the bytes at the start of the buffer:
* complete head (plus payload for a definite string): FINISHED, exactly one callback — the one denoting
  that head, with its decoded arguments — `read` = its encoded length, any payload inside the buffer;
* buffer ends inside the head or payload: NEDATA, no callback, `read = 0`, and
  `buffer length < required ≤ full length of the pending head and payload`;
* reserved / unsupported initial byte: ERROR, no callback, `read = 0`. -/
theorem C08_contract (src : Array UInt8) (hsz : src.size < 2 ^ 64 - 1) :
    let r := cbor_stream_decode src 0 (UInt64.ofNat src.size)
    match Spec.decodeHead (Spec.getA src 0) src.size with
    | .ok t l =>
        r.1.status = CBOR_DECODER_FINISHED ∧ (∃ e, r.2 = [e] ∧ tokMatch 0 e t = true) ∧
        r.1.read.toNat = l ∧ 1 ≤ l ∧ l ≤ src.size ∧
        (∀ o pl, t.payload = some (o, pl) → 1 ≤ o ∧ o + pl ≤ src.size)
    | .nedata need =>
        r.1.status = CBOR_DECODER_NEDATA ∧ r.2 = [] ∧ r.1.read = 0 ∧
        src.size < r.1.required.toNat ∧ r.1.required.toNat ≤ need
    | .error =>
        r.1.status = CBOR_DECODER_ERROR ∧ r.2 = [] ∧ r.1.read = 0 := by
  have h := sd_rel_nat src 0 src.size (by omega)
  intro r
  cases hd : Spec.decodeHead (Spec.getA src 0) src.size with
  | ok t l =>
    obtain ⟨h1, h2, _, h4⟩ := h.ok hd
    have hok := Spec.decodeHead_ok hd
    exact ⟨h1, h4, h2, hok.1, hok.2.1, fun o pl hp => by have := hok.2.2 o pl hp; omega⟩
  | nedata need =>
    obtain ⟨h1, h2, h3, h4⟩ := h.nedata hd
    have hlt := Spec.decodeHead_nedata hd
    refine ⟨h1, h3, h2, ?_, ?_⟩
    · show src.size < r.1.required.toNat
      rw [h4]; omega
    · show r.1.required.toNat ≤ need
      rw [h4]; omega
  | error =>
    obtain ⟨h1, h2, _, h4⟩ := h.error hd
    exact ⟨h1, h4, h2⟩

/-- **No undefined behaviour, no read outside the buffer** (C01's clause for the streaming decoder):
every translator-collected side condition holds when the size argument is honest. -/
theorem C08_safe (src : Array UInt8) (off : Nat) (n : UInt64) (h : off + n.toNat ≤ src.size) :
    cbor_stream_decode.ok src off n = true := sd_ok src off n h

/-- an event is determined by the token it denotes (payload offset ≥ 1, as for every decoded head) -/
theorem tokMatch_inj {off : Nat} {e e' : Event} {t : Spec.Tok}
    (h : tokMatch off e t = true) (h' : tokMatch off e' t = true)
    (hp : ∀ o pl, t.payload = some (o, pl) → 1 ≤ o) : e = e' :=
  (tokMatch_evOf h hp).trans (tokMatch_evOf h' hp).symm

/-- **A FINISHED result does not depend on any byte beyond those it reports as read**: any other buffer
that agrees on the first `read` bytes (and is at least that long) gives the identical result and the
identical callback. -/
theorem C08_prefix_indep (src src' : Array UInt8) (hsz : src.size < 2 ^ 64 - 1) (hsz' : src'.size < 2 ^ 64 - 1)
    (hfin : (cbor_stream_decode src 0 (UInt64.ofNat src.size)).1.status = CBOR_DECODER_FINISHED)
    (hlen : (cbor_stream_decode src 0 (UInt64.ofNat src.size)).1.read.toNat ≤ src'.size)
    (hpre : ∀ i, i < (cbor_stream_decode src 0 (UInt64.ofNat src.size)).1.read.toNat → src'.getD i 0 = src.getD i 0) :
    cbor_stream_decode src' 0 (UInt64.ofNat src'.size) = cbor_stream_decode src 0 (UInt64.ofNat src.size) := by
  have h := sd_rel_nat src 0 src.size (by omega)
  have h' := sd_rel_nat src' 0 src'.size (by omega)
  cases hd : Spec.decodeHead (Spec.getA src 0) src.size with
  | nedata need => exact absurd ((h.nedata hd).1.symm.trans hfin) nedata_ne_finished
  | error => exact absurd ((h.error hd).1.symm.trans hfin) error_ne_finished
  | ok t l =>
    obtain ⟨s1, s2, s3, e, s4, s5⟩ := h.ok hd
    rw [s2] at hlen hpre
    have hd' : Spec.decodeHead (Spec.getA src' 0) src'.size = .ok t l :=
      Spec.decodeHead_prefix hd (fun i hi => by simpa [Spec.getA] using hpre i hi) hlen
    obtain ⟨p1, p2, p3, e', p4, p5⟩ := h'.ok hd'
    have hee : e' = e := tokMatch_inj p5 s5 (fun o pl hp => ((Spec.decodeHead_ok hd).2.2 o pl hp).1)
    apply Prod.ext
    · have hr : (cbor_stream_decode src' 0 (UInt64.ofNat src'.size)).1.read =
          (cbor_stream_decode src 0 (UInt64.ofNat src.size)).1.read := UInt64.toNat_inj.mp (by rw [p2, s2])
      cases hx : (cbor_stream_decode src' 0 (UInt64.ofNat src'.size)).1
      cases hy : (cbor_stream_decode src 0 (UInt64.ofNat src.size)).1
      simp_all
    · rw [p4, s4, hee]

-- non-vacuity: concrete buffers exercising all three outcomes (kernel-evaluated on the generated code)
example : (cbor_stream_decode #[0x19, 0x01, 0x02] 0 3) = ({ read := 3, status := 0, required := 0 }, [Event.uint16 258]) := by decide +kernel
example : (cbor_stream_decode #[0x5B, 0xFF, 0xFF, 0xFF, 0xFF, 0xFF, 0xFF, 0xFF, 0xFF] 0 9).1 =
    { read := 0, status := 1, required := 18446744073709551615 } := by decide +kernel
example : (cbor_stream_decode #[0x5B, 0xFF, 0xFF, 0xFF, 0xFF, 0xFF, 0xFF, 0xFF, 0xF7] 0 9).1 =
    { read := 0, status := 1, required := 18446744073709551615 } := by decide +kernel
example : (cbor_stream_decode #[0x1C] 0 1) = ({ read := 0, status := 2, required := 0 }, []) := by decide +kernel

end Props.C08
