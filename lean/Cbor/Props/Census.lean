import Cbor.Gen.Effects
/-! Call-graph reachability over the generated effect census (`Gen.Effects`, rebuilt from the C sources on every run). -/
namespace Props.Census
open Gen.Effects

def calleesOf (i : Nat) : List Nat := calls.getD i []

/-- every function (or external callee) reachable from the frontier by direct calls; `fuel` ≥ number of edges visited -/
def reach : Nat → List Nat → List Nat → List Nat
  | 0, _, seen => seen
  | _+1, [], seen => seen
  | f+1, x :: rest, seen => if seen.contains x then reach f rest seen else reach f (calleesOf x ++ rest) (x :: seen)

def fuel : Nat := 20000

def idOf (n : String) : Nat := names.idxOf n
def nameOf (i : Nat) : String := names.getD i "?"

def hooks : List Nat := [idOf "_cbor_malloc", idOf "_cbor_realloc", idOf "_cbor_free"]
def indirect : Nat := idOf "(indirect)"

/-- the closure was computed completely: fuel did not run out (the frontier emptied) — checked by running
with twice the fuel and getting a set of the same size -/
def stable (roots : List Nat) : Bool := (reach fuel roots []).length == (reach (2 * fuel) roots []).length

end Props.Census
