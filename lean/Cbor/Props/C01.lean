import Cbor.Props.C02
import Cbor.Props.C08
import Cbor.Props.C07
import Cbor.Lemmas.LoadSafe
/-!
# C01 — decoding arbitrary bytes is memory-safe, assertion-clean and always terminates

What is a theorem here, for **every** buffer (every content; every length up to the bound each statement carries):

* `C01_stream_reads_inside`: every translator-collected side condition of the generated
  `Gen.cbor_stream_decode` — each array read inside `[off, off + n)`, no shift out of range, no signed
  overflow — holds when the size argument is honest (this is `Lemmas.sd_ok`);
* `C01_load_outcome`: the tree decoder model (`Model.load`: the builder callbacks, the decoding stack with
  its `size_t` counters and capacities, every head read by the generated streaming decoder) returns — it is
  a total function whose only loop provably ends before its fuel does — with its fault flag clear (the flag
  is raised by any internal consistency assertion of the model: payload outside the buffer, pop of an empty
  stack, append to a full definite container, loop not finished), and the outcome is exactly one of
  "an item and error code NONE" or "no item and an error code other than NONE";
* `C01_load_any_allocator`: the same two outcomes under every allocator oracle; `C01_read_inside`: the bytes a successful
  load reports as read are at least one and at most the buffer;
* `C01_serialize_inside`: serializing any valid tree writes only inside the caller's buffer (C07);
* the last clause — what a client then does with the decoded tree on the heap (copy, release) — is `C01_client_ops` in
  `Lemmas/ClientOps.lean`, which needs the heap-level theorems this file does not import.

What is not a theorem: undefined behaviour, out-of-bounds access and assertion failures of the *real* C code
in the builder callbacks, containers and `cbor_copy` / `cbor_describe` — those are observed by
AddressSanitizer / UBSan with `CBOR_ASSERT` enabled on exactly-sized heap blocks, exhaustively for every
buffer of up to 3 bytes (4 in the thorough tier) and on the structured corpus; see DESIGN.md.
-/
namespace Props.C01
open Gen Lemmas Model

theorem C01_stream_reads_inside (src : Array UInt8) (off : Nat) (n : UInt64) (h : off + n.toNat ≤ src.size) :
    cbor_stream_decode.ok src off n = true := sd_ok src off n h

/-- C01, two outcomes, no third, when no allocation is refused (the instance `ωT` of `C01_load_any_allocator` below). -/
theorem C01_load_outcome (src : Array UInt8) (hsz : src.size < 2 ^ 56) (L : Nat) (r0 : LoadResult) :
    let o := Model.load Lemmas.Refine.ωT L r0 src
    o.fault = false ∧
    ((∃ x, o.item = some x ∧ o.result.code = .none) ∨ (o.item = none ∧ o.result.code ≠ .none)) :=
  Lemmas.Safe.load_safe _ L r0 src (by omega)

/-- C01: the same two-outcome, fault-free guarantee for *every* allocator oracle — every
choice of which of the builder's requests are refused (`Lemmas.Safe.load_safe`: an invariant on the decoding stack
preserved by every builder callback whatever the allocator answers, the cascade of completed containers bounded by
the stack height, the loop bounded by the bytes left). -/
theorem C01_load_any_allocator (ω : Oracle) (L : Nat) (r0 : LoadResult) (src : Array UInt8) (hsz : src.size < 2 ^ 64 - 1) :
    let o := Model.load ω L r0 src
    o.fault = false ∧ ((∃ x, o.item = some x ∧ o.result.code = .none) ∨ (o.item = none ∧ o.result.code ≠ .none)) :=
  Lemmas.Safe.load_safe ω L r0 src hsz

/-- on success the bytes consumed are at least one and never exceed the buffer -/
theorem C01_read_inside (src : Array UInt8) (hsz : src.size < 2 ^ 56) (L : Nat) (r0 : LoadResult) (t : Spec.Item)
    (h : (Model.load Lemmas.Refine.ωT L r0 src).item = some t) :
    0 < (Model.load Lemmas.Refine.ωT L r0 src).result.read ∧ (Model.load Lemmas.Refine.ωT L r0 src).result.read ≤ src.size :=
  Props.C02.C02_read_bounds src hsz L r0 t h

theorem C01_serialize_inside (t : Spec.Item) (hv : Lemmas.Ser.Valid t) (hfit : (Spec.encode t).length < 2 ^ 64)
    (buf : Array UInt8) (off : Nat) (n : UInt64) :
    Lemmas.Ser.Within buf (serialize t buf off n).2 off n.toNat :=
  (Props.C07.C07_serialize t hv hfit buf off n).2.2.2.2

end Props.C01
