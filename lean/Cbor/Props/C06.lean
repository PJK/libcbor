import Cbor.Lemmas.LoadSafe
import Cbor.Props.C11
/-!
# C06 — an allocation failure is reported cleanly and atomically

Over the heap-level model: whenever a builder or a container operation reports failure (NULL / false), the
heap — every item, every reference count, every container's contents and capacity — is exactly what it was
before the call; only the count of allocator requests has advanced.  This holds for *every* oracle, i.e. for
every choice of which allocator requests are refused.  `cbor_copy` allocates repeatedly and cleans up after a late refusal:
`C06_copy_atomic` proves, for every tree, every acyclic heap and every oracle, that a failed copy has released everything it
allocated (the heap reads exactly as before, the same number of blocks is live) and never faults.  `cbor_load` under
every refusal schedule is `C06_load_any_schedule`; `cbor_serialize_alloc`, which makes a single request, is
`C06_serialize_alloc_atomic`.
-/
namespace Props.C06
open Heap

theorem new1_atomic (ω : Oracle) (h : H) (n : Node) (hf : (new1 ω h n).1 = none) :
    (new1 ω h n).2.cells = h.cells ∧ (new1 ω h n).2.fault = h.fault :=
  (new1_post ω h n).refused hf

theorem new2_atomic (ω : Oracle) (h : H) (n : Node) (hf : (new2 ω h n).1 = none) :
    (new2 ω h n).2.cells = h.cells ∧ (new2 ω h n).2.fault = h.fault :=
  (new2_post ω h n).refused hf

theorem newMulti_atomic (ω : Oracle) (h : H) (a b : Nat) (n : Node) (hf : (newMulti ω h a b n).1 = none) :
    (newMulti ω h a b n).2.cells = h.cells ∧ (newMulti ω h a b n).2.fault = h.fault :=
  (newMulti_post ω h a b n).refused hf

theorem grow_none (ω : Oracle) (h : H) (sz al : Nat) : (grow ω h sz al).2.cells = h.cells ∧ (grow ω h sz al).2.fault = h.fault :=
  ⟨(grow_same ω h sz al).1, (grow_same ω h sz al).2.1⟩

/-- a refused push (full definite array, overflow guard, or refused reallocation) leaves the heap untouched -/
theorem push_atomic (ω : Oracle) (h : H) (a x : Ref) (hf : (arrPush ω h a x).1 = false) :
    (arrPush ω h a x).2.cells = h.cells :=
  (arrPush_post ω h a x).refused hf

theorem map_add_atomic (ω : Oracle) (h : H) (m k v : Ref) (hf : (mapAdd ω h m k v).1 = false) :
    (mapAdd ω h m k v).2.cells = h.cells :=
  (mapAdd_post ω h m k v).refused hf

theorem add_chunk_atomic (ω : Oracle) (h : H) (s c : Ref) (hf : (addChunk ω h s c).1 = false) :
    (addChunk ω h s c).2.cells = h.cells :=
  (addChunk_post ω h s c).refused hf

theorem build_tag_atomic (ω : Oracle) (h : H) (n : Nat) (x : Ref) (hf : (buildTag ω h n x).1 = none) :
    (buildTag ω h n x).2.cells = h.cells := by
  rcases buildTag_post ω h n x with ⟨h', e, hc, _⟩ | ⟨t, h1, h', e, _⟩ <;> rw [e] at hf ⊢
  · exact hc
  · cases hf

/-- `cbor_array_set` reporting false — index beyond the end, full definite array, refused growth — leaves the heap untouched -/
theorem set_atomic (ω : Oracle) (h : H) (a : Ref) (i : Nat) (x : Ref) (hf : (arrSet ω h a i x).1 = false) :
    (arrSet ω h a i x).2.cells = h.cells :=
  have ⟨_, l⟩ := arrSet_post ω h a i x
  l.refused hf

/-- C06, `cbor_load` under every refusal schedule: whatever subset of its allocator requests is refused, the model of
`cbor_load` trips no internal assertion and reports through its documented channel — an item with code NONE, or NULL
with an error code. -/
theorem C06_load_any_schedule (ω : Model.Oracle) (L : Nat) (r0 : Model.LoadResult) (src : Array UInt8) (hsz : src.size < 2 ^ 64 - 1) :
    let o := Model.load ω L r0 src
    o.fault = false ∧ ((∃ x, o.item = some x ∧ o.result.code = .none) ∨ (o.item = none ∧ o.result.code ≠ .none)) :=
  Lemmas.Safe.load_safe ω L r0 src hsz

/-- C06: `cbor_copy` under every refusal schedule leaves its argument — and every other pre-existing item — exactly as
it was (contents and reference counts), whether it succeeds or fails; and the reference-count books balance again
afterwards (`Heap.Copies.fr`, `Heap.Copies.books`). -/
theorem C06_copy_any_schedule (ω : Oracle) (h : H) (own : Ref → Nat) (hc : Counts h own) (r : Ref) (c : Cell) (hg : h.get r = some c)
    (hf : (h.copy ω r).2.fault = false) :
    (∀ x, x < h.cells.length → (h.copy ω r).2.get x = h.get x) ∧
    (match (h.copy ω r).1 with
     | some r' => Counts (h.copy ω r).2 (bump own r' 1)
     | none => Counts (h.copy ω r).2 own) := by
  have c := h.copy_paths ω r
  exact ⟨fun x => (c.fr (closed_of_counts hc) (Fr.refl h) (get_lt hg)).1.old, (c.books own (Or.inr hc)).counts hf⟩

/-- C06, `cbor_copy` is atomic under every refusal schedule.  Whatever requests the allocator refuses while a tree is being
copied — the k-th alone, the k-th and all later, any subset — a copy that reports failure (NULL) has released every item
and buffer it had allocated up to that point: every cell of the heap reads exactly as before the call (contents and reference
counts of the argument and of everything else), the number of live items and of live allocator blocks is what it was, and
no clean-up path trips the fault flag (no NULL dereference, no use after release, no double release). -/
theorem C06_copy_atomic (ω : Oracle) (h : H) (t : Spec.Item) (x : Ref) (hd : Den t h x) (hac : Props.C11.Acyclic h)
    (hfail : (h.copy ω x).1 = none) :
    (h.copy ω x).2.fault = h.fault ∧ (∀ r : Nat, (h.copy ω x).2.get r = h.get r) ∧
    (h.copy ω x).2.liveCells = h.liveCells ∧ (h.copy ω x).2.liveBlocks = h.liveBlocks := by
  obtain ⟨h1, h2, h3⟩ := Props.C11.C11_copy ω h t x hd hac
  rw [hfail] at h3
  have hlen : h.cells.length ≤ (h.copy ω x).2.cells.length := by
    have := (copy_spec_top ω t h.copyFuel h x hd (need_le_copyFuel h hac t x hd)).2.1
    exact this
  have hcells := cells_eq_append_nones hlen h2 (fun r hr => by rw [h3 r, get_none_of_ge h r hr])
  refine ⟨h1, h3, ?_, ?_⟩
  · unfold H.liveCells; rw [hcells, liveCells_append_nones]
  · rw [liveBlocks_eq, liveBlocks_eq, hcells, liveBlocks_append_nones]

/-- C06: `cbor_serialize_alloc` makes one request (for exactly the computed size) and, when it is refused, returns 0 with a NULL
buffer: the model has nothing else it could have allocated or changed — for every tree, valid or not -/
theorem C06_serialize_alloc_atomic (okAlloc : Nat → Bool) (t : Spec.Item) (h : okAlloc (Model.size t).toNat = false) :
    Model.serializeAlloc okAlloc t = none := by
  unfold Model.serializeAlloc
  simp [h]

end Props.C06
