import Cbor.Gen.Serializers
import Cbor.Props.FloatAccessors
import Cbor.Props.C03
import Cbor.Props.C07
/-!
# Leaf serializers: the hand-written `Model.serialize` / `Model.size` agree with the generated code on every leaf

`Gen.cbor_serialize_uint`, `…_negint`, `…_float_ctrl`, `…_bytestring`, `…_string` and `Gen.cbor_serialized_size` are regenerated from
`src/cbor/serialization.c` on every run (extract/c2lean.py, `SER_JOBS`; the two string serializers under the stated assumption that the
item is definite, `cbor_serialized_size` under the assumption that the type is not ARRAY / MAP / TAG and that a string is definite — each
assumption is a conjunct of the generated `.ok`).  They work on the flat record `Gen.ItemRec`; the hand model works on `Spec.Item`.

No proof mentions the shape of a generated term.  Each generated function is unfolded once; the accessors it calls are rewritten to the
fields of the record by their theorems in `Props.Accessors` / `Props.FloatAccessors`; a `switch` over a tag is evaluated by `simp` once the
tag is known; a side condition `.ok` is first turned into the proposition it stands for (`= true` pushed through `if` and `&&`).
-/
set_option linter.unusedSimpArgs false
namespace Props.LeafSerializers
open Gen Lemmas Lemmas.Ser Spec Props.Accessors Props.FloatAccessors

/-- width tag of `cbor_int_width` -/
def wtag : Width → UInt32 | .w8 => 0 | .w16 => 1 | .w32 => 2 | .w64 => 3

/-- `r` represents the leaf item `x`: type tag; width tag (integers, floats) resp. definite flag (strings); the value as the little-endian
number in the first bytes of `data` (`leVal`: integers, and the IEEE-754 bit pattern of floats — a half is *stored* as binary32), the `ctrl`
field (simple values), resp. `length` and the first `length` bytes of `data` (strings; `data` may be longer). -/
def Rep : Item → ItemRec → Prop
  | .uint w v, r => r.type = 0 ∧ r.int_width = wtag w ∧ w.bytes ≤ r.data.size ∧ leVal r w.bytes = v
  | .negint w v, r => r.type = 1 ∧ r.int_width = wtag w ∧ w.bytes ≤ r.data.size ∧ leVal r w.bytes = v
  | .simple v, r => r.type = 7 ∧ r.float_width = 0 ∧ r.ctrl.toNat = v
  | .half f, r => r.type = 7 ∧ r.float_width = 1 ∧ 4 ≤ r.data.size ∧ leVal r 4 = f
  | .single b, r => r.type = 7 ∧ r.float_width = 2 ∧ 4 ≤ r.data.size ∧ leVal r 4 = b
  | .double b, r => r.type = 7 ∧ r.float_width = 3 ∧ 8 ≤ r.data.size ∧ leVal r 8 = b
  | .bytes b, r => r.type = 2 ∧ r.bs_type = 0 ∧ r.bs_length.toNat = b.length ∧ r.data.toList.take b.length = b
  | .text b, r => r.type = 3 ∧ r.str_type = 0 ∧ r.str_length.toNat = b.length ∧ r.data.toList.take b.length = b
  | _, _ => False

/-- the items `Rep` speaks about, with the ranges a `cbor_item_t` can hold -/
def Leaf : Item → Prop
  | .uint w v => v < 2 ^ (8 * w.bytes)
  | .negint w v => v < 2 ^ (8 * w.bytes)
  | .simple v => v < 256
  | .half f => f < 2 ^ 32
  | .single b => b < 2 ^ 32
  | .double b => b < 2 ^ 64
  | .bytes b => b.length < 2 ^ 64
  | .text b => b.length < 2 ^ 64
  | _ => False

def leBytes : Nat → Nat → List UInt8
  | 0, _ => []
  | n+1, v => UInt8.ofNat v :: leBytes n (v / 256)

def mk (type : UInt32) (data : Array UInt8) : ItemRec :=
  { (default : ItemRec) with type := type, refcount := 1, data := data }

/-- the record the constructors of libcbor build for a leaf (payload exactly as long as needed) -/
def recOf : Item → ItemRec
  | .uint w v => { mk 0 (leBytes w.bytes v).toArray with int_width := wtag w }
  | .negint w v => { mk 1 (leBytes w.bytes v).toArray with int_width := wtag w }
  | .simple v => { mk 7 #[] with float_width := 0, ctrl := UInt8.ofNat v }
  | .half f => { mk 7 (leBytes 4 f).toArray with float_width := 1 }
  | .single b => { mk 7 (leBytes 4 b).toArray with float_width := 2 }
  | .double b => { mk 7 (leBytes 8 b).toArray with float_width := 3 }
  | .bytes b => { mk 2 b.toArray with bs_type := 0, bs_length := UInt64.ofNat b.length }
  | .text b => { mk 3 b.toArray with str_type := 0, str_length := UInt64.ofNat b.length }
  | _ => default

theorem leBytes_length (n v : Nat) : (leBytes n v).length = n := by
  induction n generalizing v with
  | zero => rfl
  | succ n ih => simp [leBytes, ih]

theorem leNat_leBytes (n v : Nat) (h : v < 256 ^ n) : C.leNat (leBytes n v).toArray 0 n = v := by
  suffices ∀ (n v : Nat) (pre : List UInt8), v < 256 ^ n → C.leNat (pre ++ leBytes n v).toArray pre.length n = v from by
    simpa using this n v [] h
  intro n
  induction n with
  | zero => intro v pre h; simp at h; simp [C.leNat, h]
  | succ n ih =>
    intro v pre h
    have h' : v / 256 < 256 ^ n := by rw [Nat.pow_succ] at h; omega
    have := ih (v / 256) (pre ++ [UInt8.ofNat v]) h'
    simp only [List.append_assoc, List.singleton_append, List.length_append, List.length_singleton] at this
    simp only [C.leNat, leBytes, this]
    simp [Array.getD_eq_getD_getElem?]
    omega

theorem leVal_leBytes (r : ItemRec) (n v : Nat) (hd : r.data = (leBytes n v).toArray) (h : v < 2 ^ (8 * n)) :
    n ≤ r.data.size ∧ leVal r n = v := by
  rw [← leNat_eq_leVal, hd]
  exact ⟨by simp [leBytes_length], leNat_leBytes n v (Nat.pow_mul 2 8 n ▸ h)⟩

/-- `Rep` is inhabited for every leaf: the record the constructors build represents it -/
theorem rep_exists (x : Item) (h : Leaf x) : ∃ r, Rep x r := by
  refine ⟨recOf x, ?_⟩
  cases x with
  | uint w v | negint w v | half v | single v | double v => exact ⟨rfl, rfl, leVal_leBytes _ _ v rfl h⟩
  | simple v => exact ⟨rfl, rfl, by simp [recOf, mk]; exact h⟩
  | bytes b | text b => exact ⟨rfl, rfl, by simp [recOf, mk]; exact h, by simp [recOf, mk]⟩
  | _ => exact h.elim

theorem rep_leaf (x : Item) (r : ItemRec) (h : Rep x r) : Leaf x := by
  cases x with
  | uint w v | negint w v | half v | single v | double v => exact h.2.2.2 ▸ leVal_lt r _
  | simple v => exact h.2.2 ▸ r.ctrl.toNat_lt
  | bytes b => exact (h.2.2.1 ▸ r.bs_length.toNat_lt : b.length < _)
  | text b => exact (h.2.2.1 ▸ r.str_length.toNat_lt : b.length < _)
  | _ => exact h.elim

example : Rep (.uint .w8 7) { mk 0 #[7] with int_width := 0 } := ⟨rfl, rfl, by decide, by decide⟩
example : Rep (.uint .w16 0x1234) { mk 0 #[0x34, 0x12] with int_width := 1 } := ⟨rfl, rfl, by decide, by decide⟩
example : Rep (.negint .w32 0xDEADBEEF) { mk 1 #[0xEF, 0xBE, 0xAD, 0xDE] with int_width := 2 } := ⟨rfl, rfl, by decide, by decide⟩
example : Rep (.uint .w64 (2 ^ 64 - 1)) { mk 0 #[255, 255, 255, 255, 255, 255, 255, 255] with int_width := 3 } :=
  ⟨rfl, rfl, by decide, by decide⟩
example : Rep (.simple 21) { mk 7 #[] with float_width := 0, ctrl := 21 } := ⟨rfl, rfl, rfl⟩
example : Rep (.half 0x3FC00000) { mk 7 #[0, 0, 0xC0, 0x3F] with float_width := 1 } := ⟨rfl, rfl, by decide, by decide⟩
example : Rep (.single 0x7FC00001) { mk 7 #[1, 0, 0xC0, 0x7F] with float_width := 2 } := ⟨rfl, rfl, by decide, by decide⟩
example : Rep (.double 0x3FF0000000000000) { mk 7 #[0, 0, 0, 0, 0, 0, 0xF0, 0x3F] with float_width := 3 } := ⟨rfl, rfl, by decide, by decide⟩
example : Rep (.bytes [1, 2, 3]) { mk 2 #[1, 2, 3, 9, 9] with bs_type := 0, bs_length := 3 } := ⟨rfl, rfl, by decide, by decide⟩
example : Rep (.text []) { mk 3 #[] with str_type := 0, str_length := 0 } := ⟨rfl, rfl, by decide, by decide⟩

/-- The two sides of an agreement are case distinctions over conditions that may be spelled differently (`w != 0` / `0 < w`): split every
`if`; a pair of branches either agrees syntactically or has contradictory path conditions. -/
macro "agree" : tactic => `(tactic| (
  repeat' split
  all_goals first | (with_reducible rfl) | (exfalso; cnorm; omega)))

/-- `Prod.eta`, but not by `rfl`: used as a definitional rewrite it makes the kernel compare `(e.1, e.2)` with `e` by unfolding the
encoder call `e` -/
theorem pair_eta {α β} (p : α × β) : (p.1, p.2) = p := by cases p; rfl

theorem get_ofNat (r : ItemRec) :
    cbor_get_uint8 r = UInt8.ofNat (leVal r 1) ∧ cbor_get_uint16 r = UInt16.ofNat (leVal r 2) ∧
    cbor_get_uint32 r = UInt32.ofNat (leVal r 4) ∧ cbor_get_uint64 r = UInt64.ofNat (leVal r 8) ∧
    cbor_float_get_float2 r = UInt32.ofNat (leVal r 4) ∧ cbor_float_get_float4 r = UInt32.ofNat (leVal r 4) ∧
    cbor_float_get_float8 r = UInt64.ofNat (leVal r 8) := by
  refine ⟨?_, ?_, ?_, ?_, ?_, ?_, ?_⟩
  · rw [← get_uint8_val, UInt8.ofNat_toNat]
  · rw [← get_uint16_val, UInt16.ofNat_toNat]
  · rw [← get_uint32_val, UInt32.ofNat_toNat]
  · rw [← get_uint64_val, UInt64.ofNat_toNat]
  · rw [← get_float2_val, UInt32.ofNat_toNat]
  · rw [← get_float4_val, UInt32.ofNat_toNat]
  · rw [← get_float8_val, UInt64.ofNat_toNat]

/-- `memcpy` of the translator = the list copy of the hand model -/
theorem copyBytes_eq (dst : Array UInt8) (doff : Nat) (src : Array UInt8) (soff n : Nat) (h : soff + n ≤ src.size) :
    C.copyBytes dst doff src soff n = Model.copyInto dst doff ((src.toList.drop soff).take n) := by
  induction n generalizing dst doff soff with
  | zero => simp [C.copyBytes, Model.copyInto]
  | succ n ih =>
    have hs : soff < src.size := by omega
    have hd : src.toList.drop soff = src[soff] :: src.toList.drop (soff + 1) := by
      rw [List.drop_eq_getElem_cons (by simpa using hs)]; simp
    simp only [C.copyBytes, hd, List.take_succ_cons, Model.copyInto]
    rw [ih _ _ _ (by omega)]
    simp [Array.getD_eq_getD_getElem?, hs]

theorem copy_payload (src : Array UInt8) (b : List UInt8) (l : UInt64) (hl : l.toNat = b.length) (hb : src.toList.take b.length = b) :
    l.toNat ≤ src.size ∧ ∀ dst doff, C.copyBytes dst doff src 0 l.toNat = Model.copyInto dst doff b := by
  have hs : l.toNat ≤ src.size := by
    have := congrArg List.length hb; simp only [List.length_take, Array.length_toList] at this; omega
  exact ⟨hs, fun dst doff => by rw [copyBytes_eq _ _ _ _ _ (by omega), hl]; simp [hb]⟩

theorem copyBytes_size (dst : Array UInt8) (doff : Nat) (src : Array UInt8) (soff n : Nat) :
    (C.copyBytes dst doff src soff n).size = dst.size := by
  induction n generalizing dst doff soff with
  | zero => rfl
  | succ n ih => simp [C.copyBytes, ih]

theorem encRes_le (buf : Array UInt8) (off : Nat) (n : UInt64) (bs : List UInt8) : (encRes buf off n bs).1.toNat ≤ n.toNat := by
  by_cases h : bs.length ≤ n.toNat
  · rw [encRes_of_le h, UInt64.toNat_ofNat']; exact Nat.le_trans (Nat.mod_le _ _) h
  · rw [encRes_of_lt (Nat.lt_of_not_le h)]; exact Nat.zero_le _

theorem serialize_uint_eq (w : Width) (v : Nat) (r : ItemRec) (h : Rep (.uint w v) r) (buf : Array UInt8) (off : Nat) (n : UInt64) :
    cbor_serialize_uint r buf off n = Model.serialize (.uint w v) buf off n := by
  obtain ⟨_, hw, _, rfl⟩ := h
  unfold cbor_serialize_uint
  simp only [int_get_width_eq, hw, get_ofNat, pair_eta]
  cases w <;> simp [wtag, Model.serialize, Width.bytes]

theorem serialize_negint_eq (w : Width) (v : Nat) (r : ItemRec) (h : Rep (.negint w v) r) (buf : Array UInt8) (off : Nat) (n : UInt64) :
    cbor_serialize_negint r buf off n = Model.serialize (.negint w v) buf off n := by
  obtain ⟨_, hw, _, rfl⟩ := h
  unfold cbor_serialize_negint
  simp only [int_get_width_eq, hw, get_ofNat, pair_eta]
  cases w <;> simp [wtag, Model.serialize, Width.bytes]

theorem serialize_float_ctrl_eq (r : ItemRec) (buf : Array UInt8) (off : Nat) (n : UInt64) :
    (r.float_width = 0 → cbor_serialize_float_ctrl r buf off n = Model.serialize (.simple r.ctrl.toNat) buf off n) ∧
    (r.float_width = 1 → cbor_serialize_float_ctrl r buf off n = Model.serialize (.half (leVal r 4)) buf off n) ∧
    (r.float_width = 2 → cbor_serialize_float_ctrl r buf off n = Model.serialize (.single (leVal r 4)) buf off n) ∧
    (r.float_width = 3 → cbor_serialize_float_ctrl r buf off n = Model.serialize (.double (leVal r 8)) buf off n) := by
  unfold cbor_serialize_float_ctrl
  simp only [float_ctrl_fields, get_ofNat, Model.serialize, UInt8.ofNat_toNat, pair_eta]
  refine ⟨fun h => ?_, fun h => ?_, fun h => ?_, fun h => ?_⟩ <;> simp [h]

theorem serialize_bytestring_eq (b : List UInt8) (r : ItemRec) (h : Rep (.bytes b) r) (buf : Array UInt8) (off : Nat) (n : UInt64) :
    cbor_serialize_bytestring r buf off n = Model.serialize (.bytes b) buf off n := by
  obtain ⟨_, _, hl, hb⟩ := h
  unfold cbor_serialize_bytestring Model.serialize Model.serString
  simp only [container_fields, (copy_payload _ b _ hl hb).2, ← hl, UInt64.ofNat_toNat, Bool.false_eq_true, reduceIte]
  agree

theorem serialize_string_eq (b : List UInt8) (r : ItemRec) (h : Rep (.text b) r) (buf : Array UInt8) (off : Nat) (n : UInt64) :
    cbor_serialize_string r buf off n = Model.serialize (.text b) buf off n := by
  obtain ⟨_, _, hl, hb⟩ := h
  unfold cbor_serialize_string Model.serialize Model.serString
  simp only [container_fields, (copy_payload _ b _ hl hb).2, ← hl, UInt64.ofNat_toNat, reduceIte]
  agree

/-! The generated side conditions (assertions, union members, in-bounds reads of the payload, the encoders' stores, both `memcpy` ranges)
hold given only the premise the encoders themselves need: the `n` bytes at `off` lie inside the buffer. -/

theorem serialize_uint_ok (w : Width) (v : Nat) (r : ItemRec) (h : Rep (.uint w v) r) (buf : Array UInt8) (off : Nat) (n : UInt64)
    (hb : off + n.toNat ≤ buf.size) : cbor_serialize_uint.ok r buf off n = true := by
  obtain ⟨ht, hw, hs, _⟩ := h
  unfold cbor_serialize_uint.ok
  simp only [predicates_total, isa_spec, int_get_width_eq, int_get_width_ok, get_uint8_ok, get_uint16_ok, get_uint32_ok, get_uint64_ok,
    pub_uint8_ok buf off n hb, pub_uint16_ok buf off n hb, pub_uint32_ok buf off n hb, pub_uint64_ok buf off n hb,
    Bool.ite_eq_true_distrib, Bool.and_eq_true, beq_iff_eq, ht, hw]
  cases w <;> simpa [wtag, Width.bytes] using hs

theorem serialize_negint_ok (w : Width) (v : Nat) (r : ItemRec) (h : Rep (.negint w v) r) (buf : Array UInt8) (off : Nat) (n : UInt64)
    (hb : off + n.toNat ≤ buf.size) : cbor_serialize_negint.ok r buf off n = true := by
  obtain ⟨ht, hw, hs, _⟩ := h
  unfold cbor_serialize_negint.ok
  simp only [predicates_total, isa_spec, int_get_width_eq, int_get_width_ok, get_uint8_ok, get_uint16_ok, get_uint32_ok, get_uint64_ok,
    pub_negint8_ok buf off n hb, pub_negint16_ok buf off n hb, pub_negint32_ok buf off n hb, pub_negint64_ok buf off n hb,
    Bool.ite_eq_true_distrib, Bool.and_eq_true, beq_iff_eq, ht, hw]
  cases w <;> simpa [wtag, Width.bytes] using hs

theorem serialize_float_ctrl_ok (r : ItemRec) (ht : r.type = 7) (buf : Array UInt8) (off : Nat) (n : UInt64) (hb : off + n.toNat ≤ buf.size) :
    (r.float_width = 0 → cbor_serialize_float_ctrl.ok r buf off n = true) ∧
    (r.float_width = 1 → 4 ≤ r.data.size → cbor_serialize_float_ctrl.ok r buf off n = true) ∧
    (r.float_width = 2 → 4 ≤ r.data.size → cbor_serialize_float_ctrl.ok r buf off n = true) ∧
    (r.float_width = 3 → 8 ≤ r.data.size → cbor_serialize_float_ctrl.ok r buf off n = true) := by
  unfold cbor_serialize_float_ctrl.ok
  simp only [predicates_total, isa_spec, float_ctrl_fields, float_ctrl_ok, get_float2_ok, get_float4_ok, get_float8_ok,
    pub_ctrl_ok buf off n hb, Props.C15.half_ok _ buf off n hb, pub_single_ok buf off n hb, pub_double_ok buf off n hb,
    Bool.ite_eq_true_distrib, Bool.and_eq_true, beq_iff_eq, ht]
  refine ⟨fun h => ?_, fun h hs => ?_, fun h hs => ?_, fun h hs => ?_⟩ <;> simp [*]

theorem serialize_bytestring_ok (b : List UInt8) (r : ItemRec) (h : Rep (.bytes b) r) (buf : Array UInt8) (off : Nat) (n : UInt64)
    (hb : off + n.toNat ≤ buf.size) : cbor_serialize_bytestring.ok r buf off n = true := by
  obtain ⟨ht, hd, hl, hbb⟩ := h
  have hsz := (copy_payload _ b _ hl hbb).1
  -- the head: at most `n` bytes, the buffer keeps its size; hence after the fit test both `memcpy` ranges are inside their arrays
  have hle := encRes_le buf off n (Spec.head 2 r.bs_length.toNat)
  have hsub := UInt64.toNat_sub_of_le _ _ (UInt64.le_iff_toNat_le.mpr hle)
  unfold cbor_serialize_bytestring.ok
  simp only [predicates_total, isa_spec, container_fields, container_ok, definite_indefinite, pub_bytestring_start_ok buf off n hb,
    pub_bytestring_start, encRes_size, Bool.ite_eq_true_distrib, Bool.and_eq_true, beq_iff_eq, decide_eq_true_eq, ht, hd, and_true,
    true_and, if_true_right, if_true_left]
  intro fits
  cnorm
  omega

theorem serialize_string_ok (b : List UInt8) (r : ItemRec) (h : Rep (.text b) r) (buf : Array UInt8) (off : Nat) (n : UInt64)
    (hb : off + n.toNat ≤ buf.size) : cbor_serialize_string.ok r buf off n = true := by
  obtain ⟨ht, hd, hl, hbb⟩ := h
  have hsz := (copy_payload _ b _ hl hbb).1
  have hle := encRes_le buf off n (Spec.head 3 r.str_length.toNat)
  have hsub := UInt64.toNat_sub_of_le _ _ (UInt64.le_iff_toNat_le.mpr hle)
  unfold cbor_serialize_string.ok
  simp only [predicates_total, isa_spec, container_fields, container_ok, definite_indefinite, pub_string_start_ok buf off n hb,
    pub_string_start, encRes_size, Bool.ite_eq_true_distrib, Bool.and_eq_true, beq_iff_eq, decide_eq_true_eq, ht, hd, and_true,
    true_and, if_true_right, if_true_left]
  intro fits
  cnorm
  omega

theorem hdr_ok (s : UInt64) : _cbor_encoded_header_size.ok s = true := by
  unfold _cbor_encoded_header_size.ok
  repeat' split
  all_goals rfl

/-- the conversion of a value to `size_t` distributes over a conditional expression (`return c ? 1 : 2;` in a `size_t` function) -/
theorem toU64_ite (c : Prop) [Decidable c] (a b : Int) : C.toU64 (if c then a else b) = if c then C.toU64 a else C.toU64 b := by
  split <;> rfl

theorem ctrl_toUInt64 (c : UInt8) : UInt64.ofNat (c.toNat % 256) = c.toUInt64 := by
  apply UInt64.toNat_inj.mp
  have := c.toNat_lt
  simp only [UInt8.toNat_toUInt64, UInt64.toNat_ofNat']; omega

/-- `cbor_serialized_size` by class of leaf, over the fields of the record alone.  The one place where the generated function is unfolded:
every accessor becomes a field and the conversions of `int` constants to `size_t` are evaluated (`return 1;` gives `(1 : UInt64)`,
`return c ? 1 : 2;` gives `C.toU64 (if c then 1 else 2)`: `↓toU64_ite` goes into the branches before `C.toU64` is unfolded); then each
class puts its tags in and `simp` evaluates the `switch`. -/
theorem size_fields (r : ItemRec) :
    ((r.type = 0 ∨ r.type = 1) → ∀ w, r.int_width = wtag w → cbor_serialized_size r = Model.size (.uint w (leVal r w.bytes))) ∧
    (r.type = 2 → cbor_serialized_size r = Model.sizeString r.bs_length.toNat) ∧
    (r.type = 3 → cbor_serialized_size r = Model.sizeString r.str_length.toNat) ∧
    (r.type = 7 →
      (r.float_width = 0 → cbor_serialized_size r = Model.size (.simple r.ctrl.toNat)) ∧ (r.float_width = 1 → cbor_serialized_size r = 3) ∧
      (r.float_width = 2 → cbor_serialized_size r = 5) ∧ (r.float_width = 3 → cbor_serialized_size r = 9)) := by
  generalize hs : cbor_serialized_size r = s
  unfold cbor_serialized_size at hs
  simp only [isa_spec, int_get_width_eq, float_ctrl_fields, container_fields, ↓toU64_ite, C.toU64, Int.reduceMod, Int.reduceToNat,
    UInt64.reduceOfNat] at hs
  have e8 : (cbor_get_uint8 r).toUInt64.toNat = leVal r 1 := by rw [UInt8.toNat_toUInt64, get_uint8_val]
  refine ⟨?_, fun ht => ?_, fun ht => ?_, fun ht => ?_⟩
  · rintro (ht | ht) w hw <;> simp [ht, hw] at hs <;> cases w <;> simp [wtag] at hs <;> subst hs <;> dsimp only [Model.size, Width.bytes]
    -- still open: the 8-bit width, where values up to 23 are in the initial byte
    all_goals agree
  · simp [ht] at hs; subst hs
    simp only [Model.sizeString, UInt64.ofNat_toNat]; agree
  · simp [ht] at hs; subst hs
    simp only [Model.sizeString, UInt64.ofNat_toNat]; agree
  · simp [ht] at hs
    refine ⟨fun hw => ?_, fun hw => ?_, fun hw => ?_, fun hw => ?_⟩ <;> simp [hw] at hs <;> subst hs
    · simp only [Model.size, ctrl_toUInt64]
    all_goals rfl

/-- the side conditions of `cbor_serialized_size`: the assumptions under which it was translated (not a container or tag, strings definite)
and its one read of the payload (the value of an 8-bit integer) -/
theorem size_ok (r : ItemRec)
    (h : (r.type = 0 ∨ r.type = 1) ∧ (r.int_width = 0 → 1 ≤ r.data.size) ∨ r.type = 2 ∧ r.bs_type = 0 ∨ r.type = 3 ∧ r.str_type = 0 ∨
      r.type = 7) : cbor_serialized_size.ok r = true := by
  unfold cbor_serialized_size.ok
  simp only [predicates_total, isa_spec, int_get_width_eq, int_get_width_ok, get_uint8_ok, float_ctrl_fields, float_ctrl_ok,
    container_fields, container_ok, definite_indefinite, hdr_ok, Props.C20.C20_sadd_ok,
    Bool.ite_eq_true_distrib, Bool.and_eq_true, beq_iff_eq, bne_iff_ne, decide_eq_true_eq, and_true, true_and]
  rcases h with ⟨ht | ht, h8⟩ | ⟨ht, hd⟩ | ⟨ht, hd⟩ | ht <;> simp +contextual [*]

theorem size_negint_eq_uint (w : Width) (v : Nat) : Model.size (.negint w v) = Model.size (.uint w v) := by
  cases w <;> rfl

theorem one_le_bytes (w : Width) : 1 ≤ w.bytes := by cases w <;> decide

/-- the type-specific serializer `cbor_serialize` dispatches to (its `switch (cbor_typeof(item))`), by constructor of the leaf -/
def genSerialize : Item → ItemRec → Array UInt8 → Nat → UInt64 → UInt64 × Array UInt8
  | .uint _ _ => cbor_serialize_uint
  | .negint _ _ => cbor_serialize_negint
  | .bytes _ => cbor_serialize_bytestring
  | .text _ => cbor_serialize_string
  | _ => cbor_serialize_float_ctrl

def genSerializeOk : Item → ItemRec → Array UInt8 → Nat → UInt64 → Bool
  | .uint _ _ => cbor_serialize_uint.ok
  | .negint _ _ => cbor_serialize_negint.ok
  | .bytes _ => cbor_serialize_bytestring.ok
  | .text _ => cbor_serialize_string.ok
  | _ => cbor_serialize_float_ctrl.ok

/-- On every leaf the generated type-specific serializer computes exactly what the hand-written model of `cbor_serialize` computes
(return value and buffer). -/
theorem leaf_serialize_eq (x : Item) (r : ItemRec) (h : Rep x r) (buf : Array UInt8) (off : Nat) (n : UInt64) :
    genSerialize x r buf off n = Model.serialize x buf off n := by
  obtain ⟨ctrl, half, single, double⟩ := serialize_float_ctrl_eq r buf off n
  cases x with
  | uint w v => exact serialize_uint_eq w v r h buf off n
  | negint w v => exact serialize_negint_eq w v r h buf off n
  | bytes b => exact serialize_bytestring_eq b r h buf off n
  | text b => exact serialize_string_eq b r h buf off n
  | simple v => exact h.2.2 ▸ ctrl h.2.1
  | half f => exact h.2.2.2 ▸ half h.2.1
  | single b => exact h.2.2.2 ▸ single h.2.1
  | double b => exact h.2.2.2 ▸ double h.2.1
  | _ => exact h.elim

/-- … and every side condition of the generated code holds, given the premise the encoders need. -/
theorem leaf_serialize_ok (x : Item) (r : ItemRec) (h : Rep x r) (buf : Array UInt8) (off : Nat) (n : UInt64)
    (hb : off + n.toNat ≤ buf.size) : genSerializeOk x r buf off n = true := by
  cases x with
  | uint w v => exact serialize_uint_ok w v r h buf off n hb
  | negint w v => exact serialize_negint_ok w v r h buf off n hb
  | bytes b => exact serialize_bytestring_ok b r h buf off n hb
  | text b => exact serialize_string_ok b r h buf off n hb
  | simple v => exact (serialize_float_ctrl_ok r h.1 buf off n hb).1 h.2.1
  | half f => exact (serialize_float_ctrl_ok r h.1 buf off n hb).2.1 h.2.1 h.2.2.1
  | single b => exact (serialize_float_ctrl_ok r h.1 buf off n hb).2.2.1 h.2.1 h.2.2.1
  | double b => exact (serialize_float_ctrl_ok r h.1 buf off n hb).2.2.2 h.2.1 h.2.2.1
  | _ => exact h.elim

/-- The generated `cbor_serialized_size` is the hand-written `Model.size` on every leaf, and its side conditions
(among them the stated assumptions under which it was translated: not a container / tag, strings definite) hold. -/
theorem leaf_size_eq (x : Item) (r : ItemRec) (h : Rep x r) : cbor_serialized_size r = Model.size x ∧ cbor_serialized_size.ok r = true := by
  obtain ⟨int, bytes, text, float⟩ := size_fields r
  cases x with
  | uint w v =>
    exact ⟨h.2.2.2 ▸ int (.inl h.1) w h.2.1, size_ok r (.inl ⟨.inl h.1, fun _ => Nat.le_trans (one_le_bytes w) h.2.2.1⟩)⟩
  | negint w v =>
    exact ⟨size_negint_eq_uint w v ▸ h.2.2.2 ▸ int (.inr h.1) w h.2.1,
      size_ok r (.inl ⟨.inr h.1, fun _ => Nat.le_trans (one_le_bytes w) h.2.2.1⟩)⟩
  | bytes b => exact ⟨(h.2.2.1 ▸ bytes h.1 : _ = Model.sizeString b.length), size_ok r (.inr (.inl ⟨h.1, h.2.1⟩))⟩
  | text b => exact ⟨(h.2.2.1 ▸ text h.1 : _ = Model.sizeString b.length), size_ok r (.inr (.inr (.inl ⟨h.1, h.2.1⟩)))⟩
  | simple v => exact ⟨h.2.2 ▸ (float h.1).1 h.2.1, size_ok r (.inr (.inr (.inr h.1)))⟩
  | half f => exact ⟨(float h.1).2.1 h.2.1, size_ok r (.inr (.inr (.inr h.1)))⟩
  | single b => exact ⟨(float h.1).2.2.1 h.2.1, size_ok r (.inr (.inr (.inr h.1)))⟩
  | double b => exact ⟨(float h.1).2.2.2 h.2.1, size_ok r (.inr (.inr (.inr h.1)))⟩
  | _ => exact h.elim

/-- every represented leaf except a half is `Valid` (C03's value ranges); a half item is `Valid` iff it holds a half-representable value -/
theorem rep_valid (x : Item) (r : ItemRec) (h : Rep x r) (hh : ∀ f, x ≠ .half f) : Valid x := by
  cases x with
  | half f => exact (hh f rfl).elim
  | bytes b | text b => trivial
  | uint w v | negint w v | simple v | single b | double b => exact rep_leaf _ r h
  | _ => exact h.elim

/-- When the buffer has room, the generated leaf serializer returns the encoded length, the bytes at `off` are exactly
`Spec.encode x`, no other byte changes, and all its side conditions hold. -/
theorem leaf_bytes (x : Item) (r : ItemRec) (h : Rep x r) (hv : Valid x) (hfit : (encode x).length < 2 ^ 64)
    (buf : Array UInt8) (off : Nat) (n : UInt64) (hn : (encode x).length ≤ n.toNat) (hb : off + n.toNat ≤ buf.size) :
    let o := genSerialize x r buf off n
    genSerializeOk x r buf off n = true ∧
    o.1.toNat = (encode x).length ∧
    (∀ i (h : i < (encode x).length), o.2[off + i]? = some (encode x)[i]) ∧
    (∀ i, (i < off ∨ off + (encode x).length ≤ i) → o.2[i]? = buf[i]?) ∧ o.2.size = buf.size := by
  intro o
  have e : o = Model.serialize x buf off n := leaf_serialize_eq x r h buf off n
  rw [e]
  exact ⟨leaf_serialize_ok x r h buf off n hb, Props.C03.C03_bytes x hv hfit buf off n hn hb⟩

/-- When the encoding does not fit in `n` bytes the generated leaf serializer returns 0; the buffer keeps its size and
every byte outside `[off, off + n)` (it may have written a head, or part of nothing, inside). -/
theorem leaf_too_small (x : Item) (r : ItemRec) (h : Rep x r) (hv : Valid x) (hfit : (encode x).length < 2 ^ 64)
    (buf : Array UInt8) (off : Nat) (n : UInt64) (hn : n.toNat < (encode x).length) :
    (genSerialize x r buf off n).1 = 0 ∧ Within buf (genSerialize x r buf off n).2 off n.toNat := by
  rw [leaf_serialize_eq x r h buf off n]
  exact (ser_item x hv hfit buf off n).short hn

/-- The generated `cbor_serialized_size` of a leaf is the length of its RFC 8949 encoding (non-zero), and the generated
serializer returns exactly that when given at least that much room (C07 for generated code). -/
theorem leaf_size_spec (x : Item) (r : ItemRec) (h : Rep x r) (hv : Valid x) (hfit : (encode x).length < 2 ^ 64)
    (buf : Array UInt8) (off : Nat) (n : UInt64) :
    cbor_serialized_size r = UInt64.ofNat (encode x).length ∧ cbor_serialized_size r ≠ 0 ∧
    (cbor_serialized_size r ≤ n → (genSerialize x r buf off n).1 = cbor_serialized_size r) ∧
    (n < cbor_serialized_size r → (genSerialize x r buf off n).1 = 0) := by
  rw [(leaf_size_eq x r h).1, leaf_serialize_eq x r h buf off n]
  have s := Props.C07.C07_size x hv (Props.C07.rep_of_len x hfit)
  have c := Props.C07.C07_serialize x hv hfit buf off n
  simp only [hfit, if_true] at s
  exact ⟨s, c.1, fun hle => (c.2.2.1 hle).1, c.2.2.2.1⟩

/-! Read-only by type, one typing check per function (as in `Props/Accessors.lean`): result = bytes written × buffer, no `ItemRec`
component.  A store into the item — directly, through an alias, in a callee — makes the translator refuse the function (`Untranslated`),
and these lines stop elaborating. -/
example : ItemRec → Array UInt8 → Nat → UInt64 → UInt64 × Array UInt8 := cbor_serialize_uint
example : ItemRec → Array UInt8 → Nat → UInt64 → UInt64 × Array UInt8 := cbor_serialize_negint
example : ItemRec → Array UInt8 → Nat → UInt64 → UInt64 × Array UInt8 := cbor_serialize_float_ctrl
example : ItemRec → Array UInt8 → Nat → UInt64 → UInt64 × Array UInt8 := cbor_serialize_bytestring
example : ItemRec → Array UInt8 → Nat → UInt64 → UInt64 × Array UInt8 := cbor_serialize_string
example : ItemRec → UInt64 := cbor_serialized_size

/-- the same as an auditable object -/
def leafSerializers : List (String × (ItemRec → Array UInt8 → Nat → UInt64 → UInt64 × Array UInt8)) :=
  [("cbor_serialize_uint", cbor_serialize_uint), ("cbor_serialize_negint", cbor_serialize_negint),
   ("cbor_serialize_float_ctrl", cbor_serialize_float_ctrl), ("cbor_serialize_bytestring", cbor_serialize_bytestring),
   ("cbor_serialize_string", cbor_serialize_string)]

theorem readonly_serializers : leafSerializers.length = 5 ∧ (∃ f : ItemRec → UInt64, f = cbor_serialized_size) := ⟨rfl, _, rfl⟩

/-! non-vacuity of the corollaries: a concrete leaf of every kind meets the hypotheses -/
example : Valid (.half 0x3FC00000) := ⟨0x3E00, by decide, by decide⟩
example : ∃ r, Rep (.text [0x61, 0x62]) r ∧ Valid (.text [0x61, 0x62]) ∧ (encode (.text [0x61, 0x62])).length < 2 ^ 64 :=
  ⟨recOf (.text [0x61, 0x62]), ⟨rfl, rfl, by decide, by decide⟩, trivial, by decide⟩

end Props.LeafSerializers
