import Cbor.Props.CensusLemmas
/-!
# C13 — all heap traffic goes through the configured allocator

Statements about the **generated** effect census `Gen.Effects` (every call expression of every function
under src/, from clang's AST, regenerated on every run), decided by kernel evaluation.

That every block released was obtained from the installed allocator and is released once is a run-time
fact: it is observed by the tagging allocator (a foreign or repeated free aborts) and the arena allocator
(no libc backing) on all histories; see DESIGN.md.
-/
namespace Props.C13
open Gen.Effects Props.Census

def libcHeap : List String :=
  ["malloc", "calloc", "realloc", "free", "strdup", "strndup", "aligned_alloc", "posix_memalign", "reallocarray", "valloc", "memalign", "alloca"]

/-- one sweep over the table of names; every call expression then refers to an entry of it (`nameOf_mem`) -/
theorem no_libc_name : ∀ n ∈ "?" :: names, (!libcHeap.contains n) = true :=
  List.all_eq_true.mp (by decide +kernel)

/-- **No bypass.**  No call expression anywhere in the library names a C-library heap function. -/
theorem C13_no_libc_heap_call : calls.all (fun row => row.all fun c => !libcHeap.contains (nameOf c)) = true := by
  simp only [List.all_eq_true]
  exact fun _ _ c _ => no_libc_name _ (nameOf_mem c)

/-- the hooks are written only by `cbor_set_allocs` -/
theorem C13_hooks_assigned_once :
    globalWrites.filter (fun w => ["_cbor_malloc", "_cbor_realloc", "_cbor_free"].contains w.2) =
      [("cbor_set_allocs", "_cbor_free"), ("cbor_set_allocs", "_cbor_malloc"), ("cbor_set_allocs", "_cbor_realloc")] := by
  decide +kernel

def isNoAllocRoot (n : String) : Bool :=
  n == "cbor_stream_decode" || n.startsWith "cbor_encode_" || n.startsWith "_cbor_encode_" || (n.startsWith "cbor_serialize" && n != "cbor_serialize_alloc") || n == "cbor_serialized_size"

def noAllocRoots : List Nat := (List.range nDefined).filter fun i => isNoAllocRoot (nameOf i)

/-- **Allocates nothing.**  No allocator hook is reachable from the streaming decoder, the encoders,
fixed-buffer serialization or the size computation. -/
theorem C13_allocates_nothing :
    (reach fuel noAllocRoots []).all (fun g => !hooks.contains g) = true ∧ stable noAllocRoots = true ∧ 35 ≤ noAllocRoots.length := by
  rw [show noAllocRoots = _ from filter_nameOf isNoAllocRoot]
  decide +kernel

/-- every call of a hook is one of the recorded allocator call sites, and they all live in these functions -/
theorem C13_hook_callers :
    ((List.range nDefined).filter fun i => (calleesOf i).any hooks.contains).map nameOf =
      ((allocSites.filter fun s => ["_cbor_malloc", "_cbor_realloc", "_cbor_free"].contains s.2.1).map (·.1)).eraseDups := by
  rw [filter_calleesOf fun cs => cs.any hooks.contains]
  decide +kernel

/-- **No bypass through a pointer either.**  The only function that makes calls through function pointers other than the allocator hooks is
the streaming decoder (its client callbacks); and the only functions whose *address* is taken anywhere in a function body are the library's own
callbacks (the builder callbacks installed by `cbor_load`): no C-library heap function is ever named without being called — which `C13_no_libc_heap_call`
excludes — so none can be reached through a pointer. -/
theorem C13_no_indirect_bypass :
    ((List.range nDefined).filter fun i => (calleesOf i).contains indirect).map nameOf = ["cbor_stream_decode"] ∧
    fnRefs.all (fun r => !libcHeap.contains r.2 && (names.take nDefined).contains r.2) = true := by
  rw [filter_calleesOf fun cs => cs.contains indirect]
  decide +kernel

end Props.C13
