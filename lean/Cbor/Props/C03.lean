import Cbor.Lemmas.RoundTrip
/-!
# C03 — serialization emits exactly the RFC 8949 encoding of the tree

`Spec.encode` (lean/Cbor/Spec/Item.lean) is the encoding the statement describes: integers and floats at
their stored width, lengths / counts / tag numbers in the shortest head, indefinite items as start byte,
chunks or members in order, then break, any NaN as the canonical quiet NaN of its width.  The serializer model
(`Model.serialize`, all heads written by the generated encoders) writes exactly those bytes, for every tree; the
clauses of the statement are restated as facts about `Spec.encode`.  Round trip: `Spec.RT.decode_encode` (reference
decoder ∘ `Spec.encode` = identity up to NaN canonicalisation), lifted through `load_eq` to the model of `cbor_load`
(`C03_roundtrip`), with `encode_renorm` for "serializing that tree again yields the identical bytes".
-/
namespace Props.C03
open Model Spec Lemmas Lemmas.Ser

/-- For every valid tree whose encoding fits in `size_t`, and every buffer with room for it,
`cbor_serialize` returns the encoded length and the `n` bytes at `off` now start with exactly `Spec.encode t`;
every other byte of the buffer is unchanged. -/
theorem C03_bytes (t : Item) (hv : Valid t) (hfit : (encode t).length < 2 ^ 64)
    (buf : Array UInt8) (off : Nat) (n : UInt64) (hn : (encode t).length ≤ n.toNat) (hb : off + n.toNat ≤ buf.size) :
    let r := serialize t buf off n
    r.1.toNat = (encode t).length ∧
    (∀ i (h : i < (encode t).length), r.2[off + i]? = some (encode t)[i]) ∧
    (∀ i, (i < off ∨ off + (encode t).length ≤ i) → r.2[i]? = buf[i]?) ∧ r.2.size = buf.size := by
  intro r
  have e := (ser_item t hv hfit buf off n).fits hn
  have e1 : r.1 = UInt64.ofNat (encode t).length := congrArg Prod.fst e
  have e2 : r.2 = writeList buf off (encode t) := congrArg Prod.snd e
  have w := within_writeList buf off (encode t).length (encode t) (Nat.le_refl _)
  rw [← e2] at w
  refine ⟨by rw [e1, ofNat_toNat_small _ hfit], fun i h => ?_, w.2, w.1⟩
  rw [e2, writeList_getElem? buf off (encode t) i h (by omega)]
  simp [h]

/-- serialization is a function of the tree's value alone: equal trees give equal bytes, whatever the buffer held -/
theorem C03_deterministic (t : Item) (hv : Valid t) (hfit : (encode t).length < 2 ^ 64)
    (b1 b2 : Array UInt8) (n : UInt64) (hn : (encode t).length ≤ n.toNat) (h1 : n.toNat ≤ b1.size) (h2 : n.toNat ≤ b2.size) :
    ∀ i, i < (encode t).length → (serialize t b1 0 n).2[i]? = (serialize t b2 0 n).2[i]? := by
  intro i hi
  have a := (C03_bytes t hv hfit b1 0 n hn (by omega)).2.1 i hi
  have b := (C03_bytes t hv hfit b2 0 n hn (by omega)).2.1 i hi
  simp only [Nat.zero_add] at a b
  rw [a, b]

/-- integers at their stored width, except 8-bit values below 24, which are the immediate form -/
theorem int_width (w : Width) (v : Nat) :
    (encode (.uint w v)).length = if w = .w8 ∧ v < 24 then 1 else 1 + w.bytes := by
  cases w
  · simp only [encode, Spec.headBytes_length, intAi, Spec.argBytes, Width.bytes]
    by_cases h : v < 24 <;> simp [h]
  all_goals simp [encode, Spec.headBytes_length, intAi, Spec.argBytes, Width.bytes]

/-- lengths, counts and tag numbers use the shortest head -/
theorem shortest_heads (b : List UInt8) (xs : List Item) (kvs : List (Item × Item)) (n : Nat) (x : Item) :
    encode (.bytes b) = Spec.head 2 b.length ++ b ∧ encode (.text b) = Spec.head 3 b.length ++ b ∧
    encode (.array xs) = Spec.head 4 xs.length ++ encodeList xs ∧
    encode (.map kvs) = Spec.head 5 kvs.length ++ encodePairs kvs ∧
    encode (.tag n x) = Spec.head 6 n ++ encode x := by
  simp [encode]

/-- `Spec.head` is the shortest of the five head forms that can carry the argument -/
theorem head_shortest (mt v : Nat) (hv : v < 2 ^ 64) :
    (Spec.head mt v).length = if v < 24 then 1 else if v < 256 then 2 else if v < 65536 then 3 else if v < 4294967296 then 5 else 9 :=
  head_length mt v

/-- indefinite items: start byte, chunks or members in order, then break -/
theorem indefinite_shape (cs : List (List UInt8)) (xs : List Item) (kvs : List (Item × Item)) :
    encode (.bytesI cs) = [0x5F] ++ encodeChunks 2 cs ++ [0xFF] ∧ encode (.textI cs) = [0x7F] ++ encodeChunks 3 cs ++ [0xFF] ∧
    encode (.arrayI xs) = [0x9F] ++ encodeList xs ++ [0xFF] ∧ encode (.mapI kvs) = [0xBF] ++ encodePairs kvs ++ [0xFF] := by
  simp [encode]

theorem members_in_order (x : Item) (xs : List Item) (k v : Item) (r : List (Item × Item)) :
    encodeList (x :: xs) = encode x ++ encodeList xs ∧ encodePairs ((k, v) :: r) = encode k ++ encode v ++ encodePairs r := by
  simp [encodeList, encodePairs]

/-- any NaN is written as the canonical quiet NaN of its width -/
theorem nan_canonical (b : Nat) :
    (Spec.Float.isNaN 8 23 b = true → encode (.single b) = Spec.headBytes 7 26 0x7FC00000) ∧
    (Spec.Float.isNaN 11 52 b = true → encode (.double b) = Spec.headBytes 7 27 0x7FF8000000000000) := by
  constructor <;> intro h <;> simp [encode, Spec.Float.canonSingle, Spec.Float.canonDouble, h]

/-- For every canonical tree (`Spec.RT.Canon`: scalars fit their width, lengths fit, simple values
are the assigned ones, half floats hold a half-representable value) whose nesting is within the limit `L`, every
buffer that begins with `Spec.encode t` decodes to the tree with NaNs canonical (`renorm`), consuming exactly the
encoding. -/
theorem C03_decode_encode (lz : Bool) (L : Nat) (t : Item) (hc : Spec.RT.Canon t) (hd : openDepth t ≤ L)
    (get : Nat → UInt8) (len : Nat) (hat : Spec.RT.At get 0 (encode t)) (hl : (encode t).length ≤ len) :
    Spec.decode lz L (fun _ => true) get len = .ok (Spec.RT.renorm t) (encode t).length :=
  Spec.RT.decode_encode lz L get len _ Spec.RT.okAll_true t hc hd hat hl

/-- Through the model of `cbor_load`: loading exactly the bytes the serializer writes for `t` succeeds, consumes
all of them, yields the tree with NaNs canonical, raises no internal-consistency fault — and that tree serializes
to the identical bytes. -/
theorem C03_roundtrip (t : Item) (hv : Valid t) (hc : Spec.RT.Canon t) (L : Nat) (hd : openDepth t ≤ L)
    (hsz : (encode t).length < 2 ^ 56) (r0 : LoadResult) :
    let o := Model.load Lemmas.Refine.ωT L r0 (encode t).toArray
    o.item = some (Spec.RT.renorm t) ∧ o.result.code = .none ∧ o.result.read = (encode t).length ∧ o.fault = false ∧
    encode (Spec.RT.renorm t) = encode t := by
  intro o
  have hle := Lemmas.Refine.load_eq (encode t).toArray (by simpa using hsz) L r0
  have hde := Spec.RT.decode_encode true L (Lemmas.Refine.getOf (encode t).toArray) (encode t).toArray.size _
    Lemmas.RoundTrip.okAll_guard t hc hd (Lemmas.RoundTrip.at_toArray _) (by simp)
  simp only at hle
  rw [hde] at hle
  exact ⟨hle.1, by rw [hle.2.1], by rw [hle.2.1], hle.2.2, Lemmas.RoundTrip.encode_renorm t hv⟩

/-- `renorm` changes a single or double leaf only if it is a NaN -/
theorem renorm_single_of_not_nan (b : Nat) (h : Spec.Float.isNaN 8 23 b = false) : Spec.RT.renorm (.single b) = .single b := by
  simp [Spec.RT.renorm, Spec.Float.canonSingle, h]

theorem renorm_double_of_not_nan (b : Nat) (h : Spec.Float.isNaN 11 52 b = false) : Spec.RT.renorm (.double b) = .double b := by
  simp [Spec.RT.renorm, Spec.Float.canonDouble, h]

/-! non-vacuity: a nested tree meets the hypotheses of the round-trip theorems -/
example : Spec.RT.Canon (.array [.uint .w8 7, .tag 2 (.bytesI [[1, 2], []]), .map [(.text [0x61], .simple 21)], .single 0x7FC00001]) ∧
    openDepth (.array [.uint .w8 7, .tag 2 (.bytesI [[1, 2], []]), .map [(.text [0x61], .simple 21)], .single 0x7FC00001]) ≤ 3 := by
  simp [Spec.RT.Canon, Spec.RT.CanonL, Spec.RT.CanonP, Width.bytes, openDepth, depthList, depthPairs]

end Props.C03
