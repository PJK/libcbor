import Cbor.Props.Census
import Cbor.Lemmas.Threads
/-!
# C17 — the library keeps no hidden mutable global state

Over the **generated** effect census `Gen.Effects` (file-scope variables, static locals and every assignment
whose target is one of them, from clang's AST on every run):

* the only file-scope variables that are not `const` are the three allocator hooks and the debug-build
  assertion switch;
* the only function that assigns any of them is `cbor_set_allocs` (called once before threads start, by the
  property's premise); the assertion switch is never assigned by the library;
* the only static local is the callback table inside `cbor_load`, and no function assigns it.

Hence every other store the library performs goes to memory reached from its arguments or obtained from the
allocator: threads working on disjoint items share no written location.  On the model side this is `C17_any_schedule`
(`Threads.interleaving_eq_solo`).  The absence of data races of the compiled code on actual schedules is observed under
ThreadSanitizer; see DESIGN.md.
-/
namespace Props.C17
open Gen.Effects Props.Census

theorem C17_mutable_globals :
    (globals.filter fun g => !g.2.2).map (·.1) = ["_cbor_enable_assert", "_cbor_free", "_cbor_malloc", "_cbor_realloc"] := by
  decide +kernel

theorem C17_global_writers :
    globalWrites = [("cbor_set_allocs", "_cbor_free"), ("cbor_set_allocs", "_cbor_malloc"), ("cbor_set_allocs", "_cbor_realloc")] := by
  decide +kernel

theorem C17_static_locals : staticLocals = [("cbor_load", "callbacks")] := by decide +kernel

/-- the functions a worker thread runs (everything except installing the allocator) assign no global at all -/
theorem C17_workers_write_no_global :
    (globalWrites.filter fun w => w.1 != "cbor_set_allocs") = [] := by decide +kernel

/-- C-library functions that keep no hidden state of their own (MT-Safe in POSIX terms: no static buffer, no global cursor, no
locale / environment mutation; the stdio functions lock the caller's `FILE`) plus compiler builtins for float constants / predicates, the
allocator hooks, the assertion hook of the verification build, and calls through a client-supplied callback pointer -/
def reentrant : List String :=
  ["(indirect)", "__verif_assert", "_cbor_free", "_cbor_malloc", "_cbor_realloc",
   "__builtin_inff", "__builtin_inf", "__builtin_isnan", "__builtin_nanf", "__builtin_nan", "__builtin_huge_valf", "__builtin_huge_val", "__builtin_expect", "__builtin_unreachable",
   "memcpy", "memmove", "memset", "memcmp", "memchr", "strlen", "strnlen", "strcmp", "strncmp",
   "ldexp", "ldexpf", "frexp", "frexpf", "fabs", "fabsf", "isnan", "isinf", "abs", "labs",
   "fprintf", "fwrite", "fputs", "fputc", "snprintf", "abort"]

/-- C17, no hidden state behind the library's back either: every function the library calls that it does not define itself is on the
list above — in particular nothing like `strtok`, `rand`, `localeconv`, `setlocale`, `getenv`/`setenv`, `asctime`, `gmtime`, `strerror`,
which keep process-wide state -/
theorem C17_only_reentrant_externals : (names.drop nDefined).all (fun n => reentrant.contains n) = true := by decide +kernel

/-- C17.  Threads that share no item: under every interleaving of their API calls (decode, build, copy,
container operations, release — the whole history language of the heap model), each thread ends in the state and
obtains the results of running its own calls alone. -/
theorem C17_any_schedule (ω : Nat → Heap.Oracle) (L : Nat) (i : Nat) (sched : List Threads.Ev) (w : Threads.World) :
    (Threads.runW ω L w sched).1.st i = (Threads.solo (ω i) L (w.st i) (Threads.mine i sched)).1 ∧
    Threads.results i (Threads.runW ω L w sched).2 = (Threads.solo (ω i) L (w.st i) (Threads.mine i sched)).2 :=
  Threads.interleaving_eq_solo ω L i sched w

/-- a step of one thread writes no location of any other thread's state -/
theorem C17_disjoint_writes (ω : Nat → Heap.Oracle) (L : Nat) (w : Threads.World) (e : Threads.Ev) (i : Nat) (h : i ≠ e.1) :
    (Threads.stepW ω L w e).1.st i = w.st i := by
  simp [Threads.stepW, h]

end Props.C17
