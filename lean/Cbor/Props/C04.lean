import Cbor.Lemmas.CopyCounts
import Cbor.Lemmas.Positive
/-!
# C04 — reference counting frees everything exactly once for rule-following clients

Over the heap-level model and its client layer (`Cbor/Model/Heap.lean`, `Client.lean`).  A client holds
references in *slots*; `own st r` is the number of slots holding `r`.  `Heap.Counts h own` says that every
live item's reference count equals the number of references live containers hold to it plus the number the
client owns, and that nothing refers to a released item.

`C04_step`: every API operation — including `cbor_copy` with all of its clean-up paths under any allocator oracle, and
`cbor_load` — preserves `Counts`, provided the client breaks no rule (the model's `fault` flag stays clear: it is raised
exactly when an operation touches a released item, a slot it does not own, an item of the wrong type, or a full slot).
`C04_all_released`: when the client owns nothing and the container graph is acyclic, no item is live; `C04_nothing_left`
puts this together with the runs, for histories from the empty heap.
-/
namespace Props.C04
open Heap

def own (st : St) : Ref → Nat := fun r => st.slots.count (some r)

theorem own_setSlot_some (st : St) (s : Nat) (x : Ref) (hs : s < st.slots.length) (he : st.slot s = none) :
    own (st.setSlot s (some x)) = bump (own st) x 1 := by
  funext r
  have hse : st.slots[s] = none := by
    simp only [St.slot, List.getElem?_eq_getElem hs] at he
    cases hh : st.slots[s] with
    | none => rfl
    | some v => rw [hh] at he; simp at he
  have := List.count_set (a := some x) (b := some r) (l := st.slots) (i := s) hs
  simp only [own, St.setSlot, bump]
  rw [this, hse]
  by_cases e : x = r
  · subst e; simp
  · have : ¬ r = x := fun h => e h.symm
    simp [e, this]

theorem own_setSlot_none (st : St) (s : Nat) (r : Ref) (he : st.slot s = some r) :
    bump (own (st.setSlot s none)) r 1 = own st := by
  have hs : s < st.slots.length := by
    cases Nat.lt_or_ge s st.slots.length with
    | inl h => exact h
    | inr h => simp [St.slot, List.getElem?_eq_none h] at he
  have hse : st.slots[s] = some r := by
    simp only [St.slot, List.getElem?_eq_getElem hs] at he
    cases hh : st.slots[s] with
    | none => rw [hh] at he; simp at he
    | some v => rw [hh] at he; simp at he; rw [he]
  funext y
  have := List.count_set (a := (none : Option Ref)) (b := some y) (l := st.slots) (i := s) hs
  have hpos : r = y → 0 < st.slots.count (some y) := by
    intro e; subst e
    exact List.count_pos_iff.mpr (hse ▸ List.getElem_mem hs)
  simp only [own, St.setSlot, bump]
  rw [this, hse]
  by_cases e : r = y
  · have := hpos e; subst e; simp; omega
  · have : ¬ y = r := fun h => e h.symm
    simp [e, this]

theorem fresh_cells (st : St) (s : Nat) (o : Option Ref) (h' : H) : (st.fresh s (o, h')).1.h.cells = h'.cells := by
  unfold St.fresh
  split
  · rfl
  · cases hsl : st.slot s with
    | some v => rfl
    | none => cases o <;> rfl

theorem setSlot_books {st : St} {s : Nat} {x : Ref} {h' : H} (hs : ¬ st.slots.length ≤ s) (hsl : st.slot s = none)
    (b : Books h' (bump (own st) x 1)) : Books h' (own ({ st with h := h' }.setSlot s (some x))) := by
  rw [own_setSlot_some { st with h := h' } s x (Nat.lt_of_not_le hs) hsl]; exact b

theorem fresh_books (st : St) (s : Nat) (r : Option Ref × H) (b : BooksOut (own st) r) :
    Books (st.fresh s r).1.h (own (st.fresh s r).1) := by
  obtain ⟨o, h'⟩ := r
  unfold St.fresh
  split
  · exact Or.inl rfl
  · rename_i hs
    cases hsl : st.slot s with
    | some v => exact Or.inl rfl
    | none =>
      cases o with
      | none => exact b
      | some x => exact setSlot_books hs hsl b

theorem boolRes_counts (st : St) (r : Bool × H) (hc : Counts r.2 (own st)) : Counts (boolRes r st).1.h (own (boolRes r st).1) := hc

/-- the simple operations: everything except `copy` and `load` (see `C04_step` for those) -/
def Op.simple : Op → Bool
  | .copy _ _ | .load _ _ => false
  | _ => true

/-- a call that names an empty slot is a broken rule (`Or.inl rfl`); otherwise the shape of the primitive says what
happens to the books -/
theorem step_books (ω : Oracle) (L : Nat) (st : St) (op : Op) (hs : Op.simple op = true) (b : Books st.h (own st)) :
    Books (step ω L st op).1.h (own (step ω L st op).1) := by
  cases op with
  | newInt s _ _ _ | newTag s _ | newCtrl s _ | newHalf s _ | newSingle s _ | newDouble s _ =>
    exact fresh_books st s _ (b.newPost (new1_post ω st.h _) rfl)
  | newStr s _ _ | newStrI s _ => exact fresh_books st s _ (b.newPost (new2_post ω st.h _) rfl)
  | newArr s d _ | newMap s d _ =>
    cases d
    · exact fresh_books st s _ (b.newPost (new1_post ω st.h _) rfl)
    · exact fresh_books st s _ (b.newPost (newMulti_post ω st.h _ _ _) rfl)
  | buildTag s n x =>
    simp only [step]
    split
    · exact fresh_books st s _ (b.buildTag n _)
    · exact Or.inl rfl
  | push a x =>
    simp only [step]
    split
    · exact b.link (arrPush_post ω st.h _ _)
    · exact Or.inl rfl
  | pushMove a x =>
    simp only [step]
    split
    · rename_i ra rx _ hx
      have b2 := b.link (arrPush_post ω st.h ra rx)
      split
      · rename_i h2 hp
        rw [hp] at b2
        split
        · -- `cbor_move`: the client's reference is given up without releasing the item
          rename_i c hg
          have b3 : Books h2 (bump (own (st.setSlot x none)) rx 1) := by rw [own_setSlot_none st x rx hx]; exact b2
          exact Books.step (h := h2) (fun hf => hf) (fun hc _ => counts_dec hc hg) b3
        · exact Or.inl rfl
      · rename_i h2 hp
        rw [hp] at b2; exact b2
    · exact Or.inl rfl
  | set a i x =>
    simp only [step]
    split
    · obtain ⟨_, l⟩ := arrSet_post ω st.h _ i _; exact b.link l
    · exact Or.inl rfl
  | replace a i x =>
    simp only [step]
    split
    · obtain ⟨_, l⟩ := arrReplace_post st.h _ i _; exact b.link l
    · exact Or.inl rfl
  | get s a i =>
    simp only [step]
    split
    · exact fresh_books st s _ (b.get (arrGet_post st.h _ i))
    · exact Or.inl rfl
  | mapAdd m k v =>
    simp only [step]
    split
    · exact b.link (mapAdd_post ω st.h _ _ _)
    · exact Or.inl rfl
  | chunk s c =>
    simp only [step]
    split
    · exact b.link (addChunk_post ω st.h _ _)
    · exact Or.inl rfl
  | tagSet t x s =>
    simp only [step]
    split
    · rename_i rt rx _ _
      have bt := b.tagSet rt rx
      split
      · rename_i h2 hts
        rw [hts] at bt; exact bt
      · rename_i old h2 hts
        rw [hts] at bt
        split
        · exact Or.inl rfl
        · rename_i hr
          split
          · exact setSlot_books hr (by assumption) bt
          · exact Or.inl rfl
    · exact Or.inl rfl
  | tagGet s t =>
    simp only [step]
    split
    · exact fresh_books st s _ (b.get (tagGet_post st.h _))
    · exact Or.inl rfl
  | incref s x =>
    simp only [step]
    split
    · exact fresh_books st s (some _, _) (b.incref _)
    · exact Or.inl rfl
  | decref s =>
    simp only [step]
    split
    · rename_i r hr
      rw [← own_setSlot_none st s r hr] at b
      exact b.decref
    · exact Or.inl rfl
  | copy s x => cases hs
  | load s bs => cases hs

theorem C04_step_simple (ω : Oracle) (L : Nat) (st : St) (op : Op) (hs : Op.simple op = true)
    (hc : Counts st.h (own st)) (hf : (step ω L st op).1.h.fault = false) :
    Counts (step ω L st op).1.h (own (step ω L st op).1) :=
  (step_books ω L st op hs (Or.inr hc)).counts hf

/-- C04, one step.  `cbor_copy` (through all of its clean-up paths, for any allocator oracle) and
`cbor_load` preserve the books as well. -/
theorem C04_step (ω : Oracle) (L : Nat) (st : St) (op : Op)
    (hc : Counts st.h (own st)) (hf : (step ω L st op).1.h.fault = false) :
    Counts (step ω L st op).1.h (own (step ω L st op).1) := by
  refine Books.counts ?_ hf
  cases op with
  | copy s x =>
    simp only [step]
    cases hx : st.slot x with
    | none => exact Or.inl rfl
    | some rx => exact fresh_books st s _ ((st.h.copy_paths ω rx).books _ (Or.inr hc))
  | load s bs => exact fresh_books st s _ (BooksOut.of_counts (load_counts ω L st.h bs.toArray (own st) hc))
  | _ => exact step_books ω L st _ rfl (Or.inr hc)

theorem counts_init : Counts ({} : St).h (own {}) := by
  intro r
  simp [H.get, H.refs, own]

/-- a history in which the client breaks no rule: after every operation the fault flag is still clear -/
def RuleFollowing (ω : Oracle) (L : Nat) : St → List Op → Prop
  | _, [] => True
  | st, op :: ops => (step ω L st op).1.h.fault = false ∧ RuleFollowing ω L (step ω L st op).1 ops

/-- C04: after any rule-following history over the whole API, under any allocator oracle, every
item's reference count equals the number of references that exist to it. -/
theorem C04_run (ω : Oracle) (L : Nat) : ∀ (ops : List Op) (st : St),
    Counts st.h (own st) → RuleFollowing ω L st ops → Counts (run ω L st ops).h (own (run ω L st ops))
  | [], st, hc, _ => hc
  | op :: ops, st, hc, hr => by
    have h1 := C04_step ω L st op hc hr.1
    exact C04_run ω L ops (step ω L st op).1 h1 hr.2

/-- from the empty heap -/
theorem C04_run_from_init (ω : Oracle) (L : Nat) (ops : List Op) (hr : RuleFollowing ω L {} ops) :
    Counts (run ω L {} ops).h (own (run ω L {} ops)) :=
  C04_run ω L ops {} counts_init hr

/-- C04, no use after release: in a state whose books are in order, every reference a live container
holds and every reference the client owns points at a live item. -/
theorem C04_no_dangling (h : H) (o : Ref → Nat) (hc : Counts h o) :
    (∀ r, 0 < o r → ∃ c, h.get r = some c) ∧
    (∀ p c, h.get p = some c → ∀ x ∈ c.node.children, ∃ cx, h.get x = some cx) := by
  refine ⟨fun r hr => ?_, fun p c hg x hx => counts_closed hc hg hx⟩
  have := hc r
  cases hg : h.get r with
  | none => rw [hg] at this; omega
  | some c => exact ⟨c, rfl⟩

theorem fresh_pos (st : St) (s : Nat) (o : Option Ref) (h' : H) (hp : Pos h') : Pos (st.fresh s (o, h')).1.h :=
  pos_congr hp (fresh_cells st s o h')

/-- Live items have positive counts, after every operation of the history language (no hypothesis on the client) -/
theorem C04_pos_step (ω : Oracle) (L : Nat) (st : St) (op : Op) (hp : Pos st.h) : Pos (step ω L st op).1.h := by
  cases op with
  | newInt s _ _ _ | newTag s _ | newCtrl s _ | newHalf s _ | newSingle s _ | newDouble s _ =>
    exact fresh_pos st s _ _ (newPost_pos (new1_post ω st.h _) hp)
  | newStr s _ _ | newStrI s _ => exact fresh_pos st s _ _ (newPost_pos (new2_post ω st.h _) hp)
  | newArr s d _ | newMap s d _ =>
    cases d
    · exact fresh_pos st s _ _ (newPost_pos (new1_post ω st.h _) hp)
    · exact fresh_pos st s _ _ (newPost_pos (newMulti_post ω st.h _ _ _) hp)
  | buildTag s n x =>
    simp only [step]
    split
    · exact fresh_pos st s _ _ (pos_buildTag hp ω n _)
    · exact pos_bad hp
  | push a x =>
    simp only [step]
    split
    · exact linkPost_pos (arrPush_post ω st.h _ _) hp
    · exact pos_bad hp
  | pushMove a x =>
    simp only [step]
    split
    · rename_i ra rx _ _
      have l := arrPush_post ω st.h ra rx
      split
      · rename_i h2 hpp
        rw [hpp] at l
        split
        · rename_i c hg
          have := linkPost_ge2 l hp hg
          exact pos_put (linkPost_pos l hp) rx _ (fun c' hc' => by cases hc'; simp only; omega)
        · exact pos_bad (linkPost_pos l hp)
      · rename_i h2 hpp
        rw [hpp] at l; exact linkPost_pos l hp
    · exact pos_bad hp
  | set a i x =>
    simp only [step]
    split
    · obtain ⟨_, l⟩ := arrSet_post ω st.h _ i _; exact linkPost_pos l hp
    · exact pos_bad hp
  | replace a i x =>
    simp only [step]
    split
    · obtain ⟨_, l⟩ := arrReplace_post st.h _ i _; exact linkPost_pos l hp
    · exact pos_bad hp
  | get s a i =>
    simp only [step]
    split
    · exact fresh_pos st s _ _ (getPost_pos (arrGet_post st.h _ i) hp)
    · exact pos_bad hp
  | mapAdd m k v =>
    simp only [step]
    split
    · exact linkPost_pos (mapAdd_post ω st.h _ _ _) hp
    · exact pos_bad hp
  | chunk s c =>
    simp only [step]
    split
    · exact linkPost_pos (addChunk_post ω st.h _ _) hp
    · exact pos_bad hp
  | tagSet t x s =>
    simp only [step]
    split
    · rename_i rt rx _ _
      have hq := pos_tagSet hp rt rx
      split
      · rename_i h2 hts
        rw [hts] at hq; exact hq
      · rename_i old h2 hts
        rw [hts] at hq
        split
        · exact pos_bad hq
        · split
          · exact hq
          · exact pos_bad hq
    · exact pos_bad hp
  | tagGet s t =>
    simp only [step]
    split
    · exact fresh_pos st s _ _ (getPost_pos (tagGet_post st.h _) hp)
    · exact pos_bad hp
  | copy s x =>
    simp only [step]
    split
    · exact fresh_pos st s _ _ ((st.h.copy_paths ω _).pos hp)
    · exact pos_bad hp
  | incref s x =>
    simp only [step]
    split
    · exact fresh_pos st s _ _ (pos_incref hp _)
    · exact pos_bad hp
  | decref s =>
    simp only [step]
    split
    · exact pos_decref hp _
    · exact pos_bad hp
  | load s b =>
    simp only [step]
    exact fresh_pos st s _ _ (pos_load hp ω L b.toArray)

theorem C04_pos_run (ω : Oracle) (L : Nat) : ∀ (ops : List Op) (st : St), Pos st.h → Pos (run ω L st ops).h
  | [], _, hp => hp
  | op :: ops, st, hp => C04_pos_run ω L ops _ (C04_pos_step ω L st op hp)

/-- containers are acyclic: some rank strictly decreases from every live container to its members -/
def Acyclic (h : H) : Prop := ∃ rank : Ref → Nat, ∀ r c, h.get r = some c → ∀ x ∈ c.node.children, rank x < rank r

theorem mem_refs {h : H} {x : Ref} (hx : x ∈ h.refs) : ∃ p c, h.get p = some c ∧ x ∈ c.node.children := by
  unfold H.refs at hx
  obtain ⟨oc, hoc, hxc⟩ := List.mem_flatMap.mp hx
  cases oc with
  | none => simp [cellRefs] at hxc
  | some c =>
    obtain ⟨p, hp, hpe⟩ := List.getElem_of_mem hoc
    refine ⟨p, c, ?_, hxc⟩
    simp [H.get, List.getElem?_eq_getElem hp, hpe]

/-- C04: when the client owns no reference any more, the books are in order, no live
item has a zero count and containers are acyclic, then no item is live: every block has gone back to the
allocator. -/
theorem C04_all_released (h : H) (o : Ref → Nat) (hc : Counts h o) (hz : ∀ r, o r = 0) (hac : Acyclic h)
    (hpos : ∀ r c, h.get r = some c → 0 < c.rc) : ∀ r, h.get r = none := by
  obtain ⟨rank, hrank⟩ := hac
  -- a live item is referred to by a live container, of higher rank; but the ranks of live items are bounded
  have up : ∀ r c, h.get r = some c → ∃ p cp, h.get p = some cp ∧ rank r < rank p := by
    intro r c hg
    have hr := hc r
    rw [hg, hz r] at hr
    have := hpos r c hg
    obtain ⟨p, cp, hgp, hm⟩ := mem_refs (List.count_pos_iff.mp (by omega : 0 < h.refs.count r))
    exact ⟨p, cp, hgp, hrank p cp hgp r hm⟩
  have bound : ∀ r c, h.get r = some c → rank r ≤ ((List.range h.cells.length).map rank).sum :=
    fun r c hg => list_le_sum rank _ r (List.mem_range.mpr (get_lt hg))
  have key : ∀ n r c, h.get r = some c → ((List.range h.cells.length).map rank).sum ≤ rank r + n → False := by
    intro n
    induction n with
    | zero => intro r c hg hn; obtain ⟨p, cp, hgp, hlt⟩ := up r c hg; have := bound p cp hgp; omega
    | succ n ih => intro r c hg hn; obtain ⟨p, cp, hgp, hlt⟩ := up r c hg; exact ih p cp hgp (by omega)
  intro r
  cases hg : h.get r with
  | none => rfl
  | some c => exact (key _ r c hg (Nat.le_add_left _ _)).elim

/-- C04: after any rule-following history from the empty heap, under any allocator oracle, if the client
holds no reference any more and the containers it built are acyclic, no item is live: every block obtained through the
allocator has been handed back. -/
theorem C04_nothing_left (ω : Oracle) (L : Nat) (ops : List Op) (hr : RuleFollowing ω L {} ops)
    (hz : ∀ r, own (run ω L {} ops) r = 0) (hac : Acyclic (run ω L {} ops).h) :
    ∀ r, (run ω L {} ops).h.get r = none :=
  C04_all_released _ _ (C04_run_from_init ω L ops hr) hz hac
    (C04_pos_run ω L ops {} (fun r c hg => by simp [H.get] at hg))

/-! non-vacuity: a concrete history builds an array holding an integer twice, drops everything, and ends empty -/
example :
    let ops : List Op := [.newInt 0 false .w8 7, .newArr 1 false 0, .push 1 0, .push 1 0, .decref 0, .decref 1]
    let st := run (fun _ => true) 2048 {} ops
    st.h.fault = false ∧ st.h.liveCells = 0 ∧ st.h.reqs = 4 := by decide

end Props.C04
