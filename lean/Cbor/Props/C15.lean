import Cbor.Lemmas.HalfTable
import Cbor.Lemmas.HalfSpec
import Cbor.Lemmas.Loaders
import Cbor.Lemmas.Stream
import Cbor.Lemmas.Tactics
import Cbor.Lemmas.UInt
/-!
# C15 — floating-point values keep their exact bits through decode and encode

Floats are IEEE 754 bit patterns.  Decoding of singles/doubles and all encoders are **generated**
(`Gen._cbor_load_float/_double`, `Gen.cbor_encode_half/single/double`); `_cbor_decode_half` is hand-modelled
(`Ext.decodeHalfBits`, compared with the compiled function on all 65 536 inputs on every run).
`Spec.Float.*Value` is the exact value a pattern denotes.
-/
-- `half_ok` hands `simp` the exponent field in both spellings the C may use; only one occurs in any one translation
set_option linter.unusedSimpArgs false
namespace Props.C15
open Gen Lemmas

/-- **Half, decode**: for every one of the 65 536 binary16 patterns the decoded `float` denotes exactly the
value the pattern denotes (±0, subnormals, normals, ±∞ exactly; NaN ↦ NaN). -/
theorem C15_half_value (h : Nat) (hh : h < 65536) :
    Spec.Float.singleValue (Ext.decodeHalfBits h).toNat = Spec.Float.halfValue h := by
  rw [decodeHalf_spec]
  exact singleValue_halfToSingle h hh

/-- **Half, round trip**: encoding the decoded value reproduces the original two bytes after `0xF9`
(any NaN becomes the canonical quiet NaN `7E 00`), for every pattern, every buffer, every size. -/
theorem C15_half_roundtrip (h : Nat) (hh : h < 65536) (buf : Array UInt8) (off : Nat) (n : UInt64) :
    cbor_encode_half (Ext.decodeHalfBits h) buf off n =
      encRes buf off n (Spec.headBytes 7 25 (Spec.Float.canonHalf h)) := by
  rw [pub_half, halfRes_decode h hh]

/-- side conditions of `cbor_encode_half` hold for **every** float: every shift amount is in range, the
`int8_t` narrowing and every `int` operation are in range, both assertions hold, every store is in bounds -/
theorem half_ok (v : UInt32) (buf : Array UInt8) (off : Nat) (n : UInt64) (h : off + n.toNat ≤ buf.size) :
    cbor_encode_half.ok v buf off n = true := by
  -- Shape-independent: the exponent field, in either spelling (`(val & 0x7F800000) >> 23` or `(val >> 23) & 0xFF`), is read as
  -- the natural number `e < 256`; every `if` is split; each branch is closed by whichever of the two arguments applies
  -- (`first`), using only facts about `e` obtained with `omega` from the branch conditions — no branch order, no hoisting
  -- or naming of sub-expressions is assumed.
  have helt : v.toNat / 8388608 % 256 < 256 := Nat.mod_lt _ (by decide)
  generalize hed : v.toNat / 8388608 % 256 = e at helt
  unfold cbor_encode_half.ok
  simp only []
  try simp only [exp_field8, exp_field8', hed]
  repeat' split
  all_goals (try simp only [enc16_ok _ _ _ _ _ h, Bool.and_true])
  all_goals (try rfl)
  all_goals cnorm
  all_goals first
    | (-- exponent field all ones and not a NaN: the assertion `mant == 0`
       have hx : ((v >>> (23 : UInt32)) &&& (255 : UInt32)) = 255 :=
         UInt32.toNat_inj.mp (by rw [exp_field, hed]; simp; omega)
       have hN : C.isNaN32 v = false := by assumption
       simp [C.isNaN32, hx] at hN
       simp [hN]
       done)
    | (-- normal numbers: `exp - 127` fits `int8_t`, so the narrowing is the identity; the rest is linear arithmetic
       have hw := wrapS8_id ((e : Int) - 127) (by omega)
       simp only [hw] at *
       simp [C.fitsS, C.toU32, UInt32.toNat_add] at *
       omega)

/-- **Encoding to half precision is total**: any `float` produces exactly three bytes (given room for them)
and no operation on the way is undefined. -/
theorem C15_half_total (v : UInt32) (buf : Array UInt8) (off : Nat) (n : UInt64) (h : off + n.toNat ≤ buf.size) :
    cbor_encode_half.ok v buf off n = true ∧ (3 ≤ n.toNat → (cbor_encode_half v buf off n).1 = 3) := by
  refine ⟨half_ok v buf off n h, ?_⟩
  intro hn
  rw [pub_half, hb_25, encRes_of_le (bs := [_, _, _]) hn]
  rfl

/-- `isnan` tests the exponent and fraction fields; `e` and `f` are what the C expression reads them as -/
theorem isNaN_fields (eb mb n e f : Nat) (he : e = n / 2 ^ mb % 2 ^ eb) (hf : f = n % 2 ^ mb) :
    (decide (e = 2 ^ eb - 1) && !decide (f = 0)) = Spec.Float.isNaN eb mb n := by
  subst he hf
  simp [Spec.Float.isNaN, Bool.decide_and]

theorem isNaN32_spec (b : UInt32) : C.isNaN32 b = Spec.Float.isNaN 8 23 b.toNat := by
  unfold C.isNaN32 bne
  rw [u32_beq, u32_beq]
  exact isNaN_fields 8 23 b.toNat _ _ (exp_field b) (by rw [UInt32.toNat_and]; exact and_mask 23 _)

theorem isNaN64_spec (b : UInt64) : C.isNaN64 b = Spec.Float.isNaN 11 52 b.toNat := by
  unfold C.isNaN64 bne
  rw [u64_beq, u64_beq]
  refine isNaN_fields 11 52 b.toNat _ _ ?_ (by rw [UInt64.toNat_and]; exact and_mask 52 _)
  rw [UInt64.toNat_and, UInt64.toNat_shiftRight, Nat.shiftRight_eq_div_pow]
  exact and_mask 11 _

/-- **Single, round trip**: the decoded `float` *is* the four payload bytes (big-endian) — so it denotes
`Spec.Float.singleValue` of them by definition — and encoding it reproduces those bytes, any NaN becoming
the canonical quiet NaN `7F C0 00 00`. -/
theorem C15_single (src : Array UInt8) (o : Nat) (buf : Array UInt8) (off : Nat) (n : UInt64) :
    (_cbor_load_float src o).toNat = Spec.beNat (Spec.getA src o) 0 4 ∧
    cbor_encode_single (_cbor_load_float src o) buf off n =
      encRes buf off n (Spec.headBytes 7 26 (Spec.Float.canonSingle (_cbor_load_float src o).toNat)) := by
  constructor
  · simp [_cbor_load_float, load32_toNat, Spec.beNat, Spec.getA, Nat.add_assoc]
  · rw [pub_single]
    congr 2
    unfold canon32 Spec.Float.canonSingle
    rw [isNaN32_spec]
    split <;> rfl

/-- **Double, round trip** (canonical quiet NaN `7F F8 00 00 00 00 00 00`). -/
theorem C15_double (src : Array UInt8) (o : Nat) (buf : Array UInt8) (off : Nat) (n : UInt64) :
    (_cbor_load_double src o).toNat = Spec.beNat (Spec.getA src o) 0 8 ∧
    cbor_encode_double (_cbor_load_double src o) buf off n =
      encRes buf off n (Spec.headBytes 7 27 (Spec.Float.canonDouble (_cbor_load_double src o).toNat)) := by
  constructor
  · simp [_cbor_load_double, load64_toNat, Spec.beNat, Spec.getA, Nat.add_assoc]
  · rw [pub_double]
    congr 2
    unfold canon64 Spec.Float.canonDouble
    rw [isNaN64_spec]
    split <;> rfl

-- non-vacuity
example : Spec.Float.halfValue 0x3C00 = .fin false 1 0 := by decide                    -- 1.0
example : Spec.Float.halfValue 0x0001 = .fin false 1 (-24) := by decide                 -- smallest subnormal
example : Spec.Float.halfValue 0xFBFF = .fin true 2047 5 := by decide                   -- -65504
example : Spec.Float.singleValue 0x3F800000 = .fin false 1 0 := by decide
example : Ext.decodeHalfBits 0x0001 = 0x33800000 := by decide
example : Spec.Float.canonHalf 0xFE01 = 0x7E00 := by decide
example : (cbor_encode_half 0x33000000 (Array.replicate 3 0) 0 3) = (3, #[0xF9, 0x00, 0x00]) := by decide +kernel  -- 2^-25 rounds to zero

end Props.C15
