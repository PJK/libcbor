import Cbor.Lemmas.LoadFacts
import Cbor.Lemmas.Local
/-!
# C02 — `cbor_load` accepts exactly the well-formed items and builds the faithful tree

`Model.load` is the hand-written model of `cbor_load` + builder callbacks + decoding stack (tied to the C code
by the correspondence harness, op `LOAD`), which calls the **generated** `Gen.cbor_stream_decode` for every
head.  `Spec.decode` is the recursive-descent reference decoder written from RFC 8949; its `ok x n` means:
the buffer begins with a complete, well-formed item (supported profile, nesting ≤ `L`) that denotes the tree
`x` and occupies exactly `n` bytes.  All theorems: every buffer below 2^56 bytes, every `L`, allocator that
refuses nothing (libcbor's own size_t overflow guards are `okGuard`).
-/
namespace Props.C02
open Model Spec Lemmas Lemmas.Refine Lemmas.LoadFacts

/-- **Accepts exactly the well-formed items, builds exactly the denoted tree, reports exactly its length.** -/
theorem C02_load_iff (src : Array UInt8) (hsz : src.size < 2 ^ 56) (L : Nat) (r0 : LoadResult) (t : Item) (n : Nat) :
    ((Model.load ωT L r0 src).item = some t ∧ (Model.load ωT L r0 src).result.read = n) ↔
    Spec.decode true L okGuard (getOf src) src.size = .ok t n :=
  load_ok_iff src hsz L r0 t n

/-- the complete outcome (item / NULL, code, position, bytes read) is the reference decoder's, and no
assertion or impossible builder state is ever reached -/
theorem C02_load_eq (src : Array UInt8) (hsz : src.size < 2 ^ 56) (L : Nat) (r0 : LoadResult) :
    let o := Model.load ωT L r0 src
    match Spec.decode true L okGuard (getOf src) src.size with
    | .ok x n => o.item = some x ∧ o.result = { code := .none, position := 0, read := n } ∧ o.fault = false
    | .nodata => o.item = none ∧ o.result = { code := .noData, position := 0, read := 0 } ∧ o.fault = false
    | .fail e p => o.item = none ∧ o.result = { code := codeOf e, position := p, read := p } ∧ o.fault = false :=
  load_eq src hsz L r0

/-- every head is tokenised by the generated streaming decoder exactly as RFC 8949 §3 prescribes -/
theorem C02_tokenise (src : Array UInt8) (off : Nat) (n : UInt64) (hl : n.toNat < 2 ^ 64 - 1) :
    SdRel off (Gen.cbor_stream_decode src off n) (Spec.decodeHead (Spec.getA src off) n.toNat) :=
  sd_spec src off n hl

/-- the accepted item occupies at least one byte and lies inside the buffer -/
theorem C02_read_bounds (src : Array UInt8) (hsz : src.size < 2 ^ 56) (L : Nat) (r0 : LoadResult) (t : Item)
    (h : (Model.load ωT L r0 src).item = some t) :
    0 < (Model.load ωT L r0 src).result.read ∧ (Model.load ωT L r0 src).result.read ≤ src.size := by
  have := (load_ok_iff src hsz L r0 t _).mp ⟨h, rfl⟩
  have hr := (decode_ok_iff_run L (getOf src) src.size t _).mp this
  have := Lemmas.Local.run_ok_bounds hr.2
  omega

-- non-vacuity: concrete buffers through the model (kernel-evaluated through the generated decoder)
example : (Model.load ωT 2048 ⟨.none, 7, 7⟩ #[0x82, 0x01, 0x61, 0x61]).result = ⟨.none, 0, 4⟩ ∧
    (Model.load ωT 2048 ⟨.none, 7, 7⟩ #[0x82, 0x01, 0x61, 0x61]).item.isSome = true := by decide +kernel
example : (Model.load ωT 2048 ⟨.none, 7, 7⟩ #[0x9f, 0x01, 0xff, 0x00]).result = ⟨.none, 0, 3⟩ := by decide +kernel
example : (Model.load ωT 2048 ⟨.none, 7, 7⟩ #[0x5f, 0x01, 0xff]).result = ⟨.syntax, 2, 2⟩ := by decide +kernel

end Props.C02
