import Cbor.Lemmas.Indep
import Cbor.Lemmas.BuildOwn
import Cbor.Lemmas.CopyCounts
import Cbor.Lemmas.CopyFrame
/-!
# C11 — cbor_copy yields an equal, fully independent tree and leaves the source intact

Over the heap-level model (`Heap.copy` mirrors `cbor_copy` in src/cbor.c case by case, including its clean-up paths), for
every tree, every allocator oracle and every heap whose books are in order: `C11_copy` (a successful copy is an exclusively
owned tree denoting the same `t`, a failed one has released every cell it created), `C11_source_intact`, `C11_books`, and
`C11_release_copy` / `C11_release_source` (either tree can be released without any effect on the other).
-/
namespace Props.C11
open Heap

def Node.isScalar : Node → Bool
  | .int .. | .ctrl _ | .half _ | .single _ | .double _ => true
  | _ => false

/-- Copying a scalar item allocates exactly one block and yields a new item with the same type, width and value and
reference count 1; every existing item, including the source, is untouched.  If the allocator refuses, the result is NULL
and nothing changed. -/
theorem copy_scalar (ω : Oracle) (f : Nat) (h : H) (r : Ref) (c : Cell) (hg : h.get r = some c) (hs : Node.isScalar c.node = true) :
    Heap.copy ω (f + 1) h r =
      if ω h.reqs then (some h.cells.length, { h with cells := h.cells ++ [some ⟨c.node, 1⟩], reqs := h.reqs + 1 })
      else (none, { h with reqs := h.reqs + 1 }) := by
  unfold Heap.copy
  rw [hg]
  obtain ⟨n, rc⟩ := c
  by_cases hω : ω h.reqs = true <;> cases n <;> simp [Node.isScalar] at hs <;> simp [new1, H.req, H.new, hω]

/-- Copying a definite string allocates the item and a new payload block (two requests); the new item has
the same type and bytes, reference count 1, and shares nothing; a refusal of either request gives NULL with
nothing changed (the item header obtained first is released again). -/
theorem copy_string (ω : Oracle) (f : Nat) (h : H) (r : Ref) (t : Bool) (b : List UInt8) (rc : Nat) (hg : h.get r = some ⟨.str t b, rc⟩) :
    Heap.copy ω (f + 1) h r =
      if ω h.reqs then
        (if ω (h.reqs + 1) then (some h.cells.length, { h with cells := h.cells ++ [some ⟨.str t b, 1⟩], reqs := h.reqs + 2 })
         else (none, { h with reqs := h.reqs + 2 }))
      else (none, { h with reqs := h.reqs + 1 }) := by
  unfold Heap.copy
  rw [hg]
  simp only [new2, H.req, H.new]
  by_cases h1 : ω h.reqs = true
  · by_cases h2 : ω (h.reqs + 1) = true
    · simp [h1, h2]
    · simp [h1, h2]
  · simp [h1]

/-- the source is untouched by a scalar or string copy: every pre-existing reference reads as before -/
theorem copy_leaf_source_intact (ω : Oracle) (f : Nat) (h : H) (r : Ref) (c : Cell) (hg : h.get r = some c)
    (hl : Node.isScalar c.node = true ∨ ∃ t b, c.node = .str t b) :
    ∀ x, x < h.cells.length → (Heap.copy ω (f + 1) h r).2.get x = h.get x := by
  intro x hx
  rcases hl with hs | ⟨t, b, hn⟩
  · rw [copy_scalar ω f h r c hg hs]
    split
    · simp only [H.get]; rw [List.getElem?_append_left hx]
    · rfl
  · obtain ⟨n, rc⟩ := c
    simp only at hn; subst hn
    rw [copy_string ω f h r t b rc hg]
    split
    · split
      · simp only [H.get]; rw [List.getElem?_append_left hx]
      · rfl
    · rfl

/-- In a heap whose books are in order (`Counts`), `cbor_copy` of a live item — whether it
succeeds or fails, whatever the allocator refuses — leaves every item that existed before exactly as it was; a
successful copy's root did not exist before; and no item created by the copy refers to an item that existed
before. -/
theorem C11_source_intact (ω : Oracle) (h : H) (own : Ref → Nat) (hc : Counts h own) (r : Ref) (c : Cell) (hg : h.get r = some c) :
    (∀ x, x < h.cells.length → (h.copy ω r).2.get x = h.get x) ∧
    (∀ r', (h.copy ω r).1 = some r' → h.cells.length ≤ r') ∧
    (∀ p cp, h.cells.length ≤ p → (h.copy ω r).2.get p = some cp → ∀ x ∈ cp.node.children, h.cells.length ≤ x) := by
  have := (copy_frame_all ω h.cells.length h (closed_of_counts hc) h.copyFuel).1 h r (Fr.refl h) (get_lt hg)
  exact ⟨fun _ => this.1.old, this.2, fun _ _ => this.1.new⟩

/-- On success the client owns one more reference — the copy's root — and every count
is again exactly the number of references; on failure nothing is owed to anyone. -/
theorem C11_books (ω : Oracle) (h : H) (own : Ref → Nat) (hc : Counts h own) (r : Ref) (hf : (h.copy ω r).2.fault = false) :
    match (h.copy ω r).1 with
    | some r' => Counts (h.copy ω r).2 (bump own r' 1)
    | none => Counts (h.copy ω r).2 own :=
  (copy_counts_all ω h.copyFuel).1 h r own hc hf

/-- the source containers are acyclic (the client obligation named in C04): some rank strictly decreases from every
live container to its members -/
abbrev Acyclic (h : H) : Prop := ∃ rank : Ref → Nat, ∀ r c, h.get r = some c → ∀ x ∈ c.node.children, rank x < rank r

/-- If item `x` denotes the tree `t` (`Den`: types, widths, values, flavour, chunk boundaries, member
order; sub-items may be shared), then for every allocator oracle: the fault flag is untouched (no assertion, no NULL
dereference, no use of a released item on any clean-up path), no pre-existing cell changes, and
* on success the result `y` is an *exclusively owned* tree for the same `t`, occupying exactly the cells the copy created
  (`Own`: every node has reference count one, no node is used twice, nothing outside the new cells is part of it);
* on failure the heap reads exactly as it did before the call: everything allocated on the way has been released. -/
theorem C11_copy (ω : Oracle) (h : H) (t : Spec.Item) (x : Ref) (hd : Den t h x) (hac : Acyclic h) :
    (h.copy ω x).2.fault = h.fault ∧
    (∀ r : Nat, r < h.cells.length → (h.copy ω x).2.get r = h.get r) ∧
    match (h.copy ω x).1 with
    | some y => Own t (h.copy ω x).2 y h.cells.length (h.copy ω x).2.cells.length
    | none => ∀ r : Nat, (h.copy ω x).2.get r = h.get r := by
  have hp := copy_spec_top ω t h.copyFuel h x hd (need_le_copyFuel h hac t x hd)
  unfold H.copy
  cases hr : copy ω h.copyFuel h x with
  | mk o h' =>
    rw [hr] at hp
    refine ⟨hp.keeps.fault, hp.keeps.old, ?_⟩
    cases o with
    | some y => exact hp.granted
    | none => exact ((Freed.empty _ _).restores hp.keeps.old hp.refused).2

/-- the copy denotes the same tree as the source -/
theorem C11_copy_denotes (ω : Oracle) (h : H) (t : Spec.Item) (x : Ref) (hd : Den t h x) (hac : Acyclic h) (y : Ref)
    (hs : (h.copy ω x).1 = some y) : Den t (h.copy ω x).2 y := by
  have := (C11_copy ω h t x hd hac).2.2
  rw [hs] at this
  exact own_den t y _ _ this

/-- hence it serializes to the same bytes: both denote `t`, and the serializer's output is a function of the tree
(`Props.C03`: `Spec.encode t`) -/
theorem C11_same_bytes (ω : Oracle) (h : H) (t : Spec.Item) (x : Ref) (hd : Den t h x) (hac : Acyclic h) (y : Ref)
    (hs : (h.copy ω x).1 = some y) : ∃ t', Den t' (h.copy ω x).2 y ∧ Spec.encode t' = Spec.encode t :=
  ⟨t, C11_copy_denotes ω h t x hd hac y hs, rfl⟩

/-- every cell the copy created is live with reference count one, and the copy's root is one of them -/
theorem C11_copy_counts_one (ω : Oracle) (h : H) (t : Spec.Item) (x : Ref) (hd : Den t h x) (hac : Acyclic h) (y : Ref)
    (hs : (h.copy ω x).1 = some y) :
    h.cells.length ≤ y ∧ ∀ r, h.cells.length ≤ r → r < (h.copy ω x).2.cells.length → ∃ c, (h.copy ω x).2.get r = some c ∧ c.rc = 1 := by
  have := (C11_copy ω h t x hd hac).2.2
  rw [hs] at this
  exact ⟨(own_lt this).2.1, own_all_one this⟩

/-- Releasing the copy releases exactly the cells the copy created: afterwards every pre-existing cell — the source
included — reads as it did before the copy was made -/
theorem C11_release_copy (ω : Oracle) (h : H) (t : Spec.Item) (x : Ref) (hd : Den t h x) (hac : Acyclic h) (y : Ref)
    (hs : (h.copy ω x).1 = some y) :
    ((h.copy ω x).2.decref y).fault = h.fault ∧ ∀ r : Nat, ((h.copy ω x).2.decref y).get r = h.get r := by
  obtain ⟨h1, h2, h3⟩ := C11_copy ω h t x hd hac
  rw [hs] at h3
  have hr := (hdecref_own h3 (Nat.le_refl _)).restores h2 (get_none_of_ge _)
  exact ⟨hr.1.trans h1, hr.2⟩

/-- Releasing the source (or any other pre-existing item) after the copy leaves the copy exactly as it was: still an
exclusively owned tree for `t` -/
theorem C11_release_source (ω : Oracle) (h : H) (own : Ref → Nat) (hc : Counts h own) (t : Spec.Item) (x : Ref) (hd : Den t h x)
    (hac : Acyclic h) (y : Ref) (hs : (h.copy ω x).1 = some y) (z : Ref) (hz : z < h.cells.length) :
    Own t ((h.copy ω x).2.decref z) y h.cells.length (h.copy ω x).2.cells.length := by
  obtain ⟨_, h2, h3⟩ := C11_copy ω h t x hd hac
  rw [hs] at h3
  have hcl : Closed h.cells.length (h.copy ω x).2 := closed_congr (closed_of_counts hc) h2
  exact own_congr (fun r hr _ => decref_below _ _ z hcl hz r hr) h3

/-! non-vacuity: the hypotheses are satisfiable — a heap in which an array holds the same integer twice (a shared
sub-item); it denotes `[7, 7]` and is acyclic -/
example :
    let h : H := { cells := [some ⟨.int false .w8 7, 3⟩, some ⟨.arr false [0, 0] 2, 1⟩] }
    Den (.arrayI [.uint .w8 7, .uint .w8 7]) h 1 ∧ Acyclic h := by
  refine ⟨?_, ⟨fun r => r, ?_⟩⟩
  · simp [Den, DenList, H.get]
  · intro r c hg x hx
    match r, hg with
    | 0, hg => simp [H.get] at hg; subst hg; simp [Node.children] at hx
    | 1, hg => simp [H.get] at hg; subst hg; simp [Node.children] at hx; subst hx; exact Nat.zero_lt_one
    | r+2, hg => simp [H.get] at hg

end Props.C11
