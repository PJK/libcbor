import Cbor.Lemmas.LoadFacts
import Cbor.Lemmas.Local
/-!
# C05 — decode failures are reported definitively, with the right code and position

Over `Model.load` (see C02).  `Spec.decode` carries the error taxonomy of the property: `notEnough p` at the
offset of the first incomplete or missing head, `malformed p` at the offset of a reserved / unsupported initial
byte, `syntax p` just past a complete head that is illegal where it stands, `mem p` just past a head that nests
beyond the limit (or whose declared storage cannot be allocated) — with libcbor's *lazy* reporting of an
illegal item opened inside a chunked string, which the property admits.
-/
namespace Props.C05
open Model Spec Abs Lemmas Lemmas.Refine Lemmas.LoadFacts Lemmas.Fund Lemmas.Local

/-- C05, right code, right position, every field written: a failed load returns NULL, and code / position / read
are exactly what the reference decoder assigns to the bytes; `read = position`. -/
theorem C05_code_pos (src : Array UInt8) (hsz : src.size < 2 ^ 56) (L : Nat) (r0 : LoadResult)
    (hfail : (Model.load ωT L r0 src).item = none) :
    (src.size = 0 ∧ (Model.load ωT L r0 src).result = { code := .noData, position := 0, read := 0 }) ∨
    (∃ e p, Spec.decode true L okGuard (getOf src) src.size = .fail e p ∧
            (Model.load ωT L r0 src).result = { code := codeOf e, position := p, read := p }) := by
  have h := load_eq src hsz L r0
  simp only at h
  cases hd : Spec.decode true L okGuard (getOf src) src.size with
  | ok x m => rw [hd] at h; rw [h.1] at hfail; cases hfail
  | nodata =>
    rw [hd] at h
    left
    refine ⟨?_, h.2.1⟩
    unfold Spec.decode at hd
    by_cases h0 : src.size = 0
    · exact h0
    · simp only [h0, if_false] at hd
      cases hi : item true L okGuard (getOf src) src.size (2 * src.size + 3) 0 0 <;> simp [hi] at hd
  | fail e p => rw [hd] at h; right; exact ⟨e, p, rfl, h.2.1⟩

/-- the failing result does not depend on what the caller left in the result struct -/
theorem C05_fields_written (ω : Oracle) (L : Nat) (r0 r0' : LoadResult) (src : Array UInt8) :
    Model.load ω L r0 src = Model.load ω L r0' src := rfl

/-- empty input gives NODATA (position 0, read 0) -/
theorem C05_empty (ω : Oracle) (L : Nat) (r0 : LoadResult) (src : Array UInt8) (h : src.size = 0) :
    (Model.load ω L r0 src).item = none ∧ (Model.load ω L r0 src).result = { code := .noData, position := 0, read := 0 } := by
  simp [Model.load, h]

theorem getOf_extract (src : Array UInt8) (k i : Nat) (hi : i < k) (hk : k ≤ src.size) :
    getOf (src.extract 0 k) i = getOf src i := by
  have h1 : i < (src.extract 0 k).size := by simp; omega
  have h2 : i < src.size := by omega
  simp only [getOf, Array.getD_eq_getD_getElem?, Array.getElem?_eq_getElem h1, Array.getElem?_eq_getElem h2, Option.getD_some]
  simp [Array.getElem_extract]

/-- C05: every proper prefix of an acceptable item gives NOTENOUGHDATA positioned at the first incomplete or
missing head — never a hard error. -/
theorem C05_prefix (src : Array UInt8) (hsz : src.size < 2 ^ 56) (L : Nat) (r0 : LoadResult) (t : Item) (n k : Nat)
    (hok : (Model.load ωT L r0 src).item = some t ∧ (Model.load ωT L r0 src).result.read = n)
    (hk0 : 0 < k) (hkn : k < n) :
    ∃ p, (Model.load ωT L r0 (src.extract 0 k)).item = none ∧
         (Model.load ωT L r0 (src.extract 0 k)).result = { code := .notEnough, position := p, read := p } ∧
         p ≤ k ∧ (∃ need, headAt (getOf src) k p = .nedata need) := by
  obtain ⟨_, hrun⟩ := (load_ok_iff_run src hsz L r0 t n).mp hok
  have hm := run_ok_bounds hrun
  have hks : k ≤ src.size := by omega
  have hsize : (src.extract 0 k).size = k := by simp; omega
  -- the run over the first k bytes of the same buffer
  obtain ⟨p, e1, _, e3, e4⟩ := run_trunc (L := L) (okA := okGuard) (get := getOf src) (len := src.size) (len' := k)
    (src.size + 1) (k + 1) [] 0 t n hrun hkn (by omega) (Nat.zero_le _)
  -- same bytes below k in the extracted array
  have e1' : run L okGuard (getOf (src.extract 0 k)) k (k + 1) [] 0 = .err .notEnough p := by
    rw [run_congr (fun i hi => getOf_extract src k i hi hks)]; exact e1
  -- the reference decoder on the prefix
  have hdec' : Spec.decode true L okGuard (getOf (src.extract 0 k)) (src.extract 0 k).size = .fail .notEnough p := by
    rw [← abs_decode_eq (L := L) (okA := okGuard) rfl, hsize]
    unfold Abs.decode
    simp only [show ¬ k = 0 by omega, if_false, e1']
  have hl := load_eq (src.extract 0 k) (by omega) L r0
  simp only at hl
  rw [hdec'] at hl
  exact ⟨p, hl.1, hl.2.1, e3, e4⟩

end Props.C05
