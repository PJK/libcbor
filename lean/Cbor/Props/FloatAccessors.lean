import Cbor.Gen.Accessors2
import Cbor.Props.Accessors
import Cbor.Props.C15
/-!
# Float getters / setters of the item API: theorems over the generated definitions (`Cbor.Gen.Accessors2`)

`cbor_float_get_float2/4/8`, `cbor_float_get_float`, `cbor_set_float2/4/8` are regenerated from src/cbor/floats_ctrls.c on every run.
A C `float` is its IEEE-754 binary32 bit pattern (`UInt32`), a `double` its binary64 pattern (`UInt64`); `*(float*)item->data` is the
4 (8) little-endian bytes at `data[0..]`; the implicit conversion `float → double` is `Prelude.f32ToF64`.
-/
set_option linter.unusedSimpArgs false
namespace Props.FloatAccessors
open Gen Props.Accessors

theorem bytes_ext (a b : Array UInt8) (hs : a.size = b.size) (h : ∀ i, a.getD i 0 = b.getD i 0) : a = b := by
  apply Array.ext hs
  intro i h1 h2
  have := h i
  simpa [Array.getD_eq_getD_getElem?, h1, h2] using this

theorem leStore_leStore (a : Array UInt8) (o n v w : Nat) : C.leStore (C.leStore a o n v) o n w = C.leStore a o n w := by
  apply bytes_ext
  · simp only [leStore_size]
  · intro i
    simp only [leStore_getD, leStore_size]
    split <;> rfl

/-! `acc_unfold` / `acc_decide` of `Props.Accessors`, extended to the float functions -/

macro "facc_unfold" : tactic => `(tactic| (
  (try dsimp only [cbor_float_get_float.ok, cbor_float_get_float2.ok, cbor_float_get_float4.ok, cbor_float_get_float8.ok,
    cbor_set_float2.ok, cbor_set_float4.ok, cbor_set_float8.ok] at *)
  (try dsimp only [cbor_float_get_float2.ok, cbor_float_get_float4.ok, cbor_float_get_float8.ok] at *)))

macro "facc_decide" : tactic => `(tactic| (facc_unfold; acc_decide))

/-- what `cbor_set_float4` stored is what `cbor_float_get_float4` returns, bit for bit (NaN payloads, the sign of zero included) -/
theorem get_set_float4 (r : ItemRec) (v : UInt32) (h : 4 ≤ r.data.size) : cbor_float_get_float4 (cbor_set_float4 r v) = v := by
  dsimp only [cbor_float_get_float4, cbor_set_float4]
  exact (loadLE_storeLE _ 0).2.1 v (by omega)
example : cbor_float_get_float4 (cbor_set_float4 { (default : ItemRec) with data := #[1, 2, 3, 4, 5] } 0x7F800001) = 0x7F800001 :=
  get_set_float4 _ _ (by decide)

/-- `cbor_set_float2` stores the `float` it is given as is (all 32 bits; the item only *serializes* as a half) -/
theorem get_set_float2 (r : ItemRec) (v : UInt32) (h : 4 ≤ r.data.size) : cbor_float_get_float2 (cbor_set_float2 r v) = v := by
  dsimp only [cbor_float_get_float2, cbor_set_float2]
  exact (loadLE_storeLE _ 0).2.1 v (by omega)
example : cbor_float_get_float2 (cbor_set_float2 { (default : ItemRec) with data := #[1, 2, 3, 4] } 0x3F801FFF) = 0x3F801FFF :=
  get_set_float2 _ _ (by decide)

theorem get_set_float8 (r : ItemRec) (v : UInt64) (h : 8 ≤ r.data.size) : cbor_float_get_float8 (cbor_set_float8 r v) = v := by
  dsimp only [cbor_float_get_float8, cbor_set_float8]
  exact (loadLE_storeLE _ 0).2.2 v (by omega)
example : cbor_float_get_float8 (cbor_set_float8 { (default : ItemRec) with data := #[1, 2, 3, 4, 5, 6, 7, 8] } 0x8000000000000000)
    = 0x8000000000000000 := get_set_float8 _ _ (by decide)

/-- the last store wins, for every pair of patterns: in particular `-0.0` over `+0.0` and a NaN over (the same or another) NaN, which
compare equal / unequal as numbers -/
theorem set_set_float8 (r : ItemRec) (a b : UInt64) : cbor_set_float8 (cbor_set_float8 r a) b = cbor_set_float8 r b := by
  dsimp only [cbor_set_float8, C.storeLE64]
  rw [leStore_leStore]
theorem set_set_float4 (r : ItemRec) (a b : UInt32) : cbor_set_float4 (cbor_set_float4 r a) b = cbor_set_float4 r b := by
  dsimp only [cbor_set_float4, C.storeLE32]
  rw [leStore_leStore]
theorem set_set_float2 (r : ItemRec) (a b : UInt32) : cbor_set_float2 (cbor_set_float2 r a) b = cbor_set_float2 r b := by
  dsimp only [cbor_set_float2, C.storeLE32]
  rw [leStore_leStore]
theorem set_pos_zero_neg_zero (r : ItemRec) (h : 8 ≤ r.data.size) :
    cbor_float_get_float8 (cbor_set_float8 (cbor_set_float8 r 0) 0x8000000000000000) = 0x8000000000000000 := by
  rw [set_set_float8, get_set_float8 _ _ h]
example : cbor_float_get_float8 (cbor_set_float8 (cbor_set_float8 { (default : ItemRec) with data := #[9, 9, 9, 9, 9, 9, 9, 9] } 0)
    0x8000000000000000) = 0x8000000000000000 := set_pos_zero_neg_zero _ (by decide)

theorem set_float2_fields (r : ItemRec) (v : UInt32) : cbor_set_float2 r v = { r with data := (cbor_set_float2 r v).data } := by
  dsimp only [cbor_set_float2]
  repeat' split
  all_goals first | contradiction | (with_reducible rfl) | rfl
theorem set_float4_fields (r : ItemRec) (v : UInt32) : cbor_set_float4 r v = { r with data := (cbor_set_float4 r v).data } := by
  dsimp only [cbor_set_float4]
  repeat' split
  all_goals first | contradiction | (with_reducible rfl) | rfl
theorem set_float8_fields (r : ItemRec) (v : UInt64) : cbor_set_float8 r v = { r with data := (cbor_set_float8 r v).data } := by
  dsimp only [cbor_set_float8]
  repeat' split
  all_goals first | contradiction | (with_reducible rfl) | rfl

/-- `cbor_set_float2` writes 4 bytes: it stores a `float` -/
theorem set_float2_frame (r : ItemRec) (v : UInt32) :
    (cbor_set_float2 r v).data.size = r.data.size ∧ ∀ i, 4 ≤ i → (cbor_set_float2 r v).data.getD i 0 = r.data.getD i 0 := by
  dsimp only [cbor_set_float2, C.storeLE32]
  exact leStore_frame _ _ _
theorem set_float4_frame (r : ItemRec) (v : UInt32) :
    (cbor_set_float4 r v).data.size = r.data.size ∧ ∀ i, 4 ≤ i → (cbor_set_float4 r v).data.getD i 0 = r.data.getD i 0 := by
  dsimp only [cbor_set_float4, C.storeLE32]
  exact leStore_frame _ _ _
theorem set_float8_frame (r : ItemRec) (v : UInt64) :
    (cbor_set_float8 r v).data.size = r.data.size ∧ ∀ i, 8 ≤ i → (cbor_set_float8 r v).data.getD i 0 = r.data.getD i 0 := by
  dsimp only [cbor_set_float8, C.storeLE64]
  exact leStore_frame _ _ _
example : (cbor_set_float4 { (default : ItemRec) with data := #[1, 2, 3, 4, 5] } 7).data.getD 4 0 = 5 := by
  rw [(set_float4_frame _ _).2 4 (by decide)]; rfl

theorem setters_keep_tags (r : ItemRec) :
    (∀ v, (cbor_set_float2 r v).float_width = r.float_width ∧ (cbor_set_float2 r v).type = r.type ∧ (cbor_set_float2 r v).refcount = r.refcount ∧
      (cbor_set_float2 r v).ctrl = r.ctrl) ∧
    (∀ v, (cbor_set_float4 r v).float_width = r.float_width ∧ (cbor_set_float4 r v).type = r.type ∧ (cbor_set_float4 r v).refcount = r.refcount ∧
      (cbor_set_float4 r v).ctrl = r.ctrl) ∧
    (∀ v, (cbor_set_float8 r v).float_width = r.float_width ∧ (cbor_set_float8 r v).type = r.type ∧ (cbor_set_float8 r v).refcount = r.refcount ∧
      (cbor_set_float8 r v).ctrl = r.ctrl) := by
  refine ⟨fun v => ?_, fun v => ?_, fun v => ?_⟩
  · rw [set_float2_fields]; exact ⟨rfl, rfl, rfl, rfl⟩
  · rw [set_float4_fields]; exact ⟨rfl, rfl, rfl, rfl⟩
  · rw [set_float8_fields]; exact ⟨rfl, rfl, rfl, rfl⟩

theorem get_float2_val (r : ItemRec) : (cbor_float_get_float2 r).toNat = leVal r 4 := by
  dsimp only [cbor_float_get_float2]
  rw [(loadLE_toNat _ 0).2.1, leNat_eq_leVal]
theorem get_float4_val (r : ItemRec) : (cbor_float_get_float4 r).toNat = leVal r 4 := by
  dsimp only [cbor_float_get_float4]
  rw [(loadLE_toNat _ 0).2.1, leNat_eq_leVal]
theorem get_float8_val (r : ItemRec) : (cbor_float_get_float8 r).toNat = leVal r 8 := by
  dsimp only [cbor_float_get_float8]
  rw [(loadLE_toNat _ 0).2.2, leNat_eq_leVal]

/-- `cbor_float_width`: `CBOR_FLOAT_16` = 1, `CBOR_FLOAT_32` = 2, `CBOR_FLOAT_64` = 3; this implies the asserted `cbor_is_float` (width ≠ 0) -/
theorem get_float2_ok (r : ItemRec) : cbor_float_get_float2.ok r = true ↔ r.type = 7 ∧ r.float_width = 1 ∧ 4 ≤ r.data.size := by facc_decide
theorem get_float4_ok (r : ItemRec) : cbor_float_get_float4.ok r = true ↔ r.type = 7 ∧ r.float_width = 2 ∧ 4 ≤ r.data.size := by facc_decide
theorem get_float8_ok (r : ItemRec) : cbor_float_get_float8.ok r = true ↔ r.type = 7 ∧ r.float_width = 3 ∧ 8 ≤ r.data.size := by facc_decide
theorem set_float_ok (r : ItemRec) :
    (∀ v, cbor_set_float2.ok r v = cbor_float_get_float2.ok r) ∧ (∀ v, cbor_set_float4.ok r v = cbor_float_get_float4.ok r) ∧
    (∀ v, cbor_set_float8.ok r v = cbor_float_get_float8.ok r) := by
  refine ⟨fun v => ?_, fun v => ?_, fun v => ?_⟩ <;> rw [Bool.eq_iff_iff] <;> facc_decide
/-- no requirement on `data` for a width tag above 3: the `default:` branch reads nothing -/
theorem get_float_ok (r : ItemRec) :
    cbor_float_get_float.ok r = true ↔
      r.type = 7 ∧ r.float_width ≠ 0 ∧ ((r.float_width = 1 ∨ r.float_width = 2) → 4 ≤ r.data.size) ∧ (r.float_width = 3 → 8 ≤ r.data.size) := by
  facc_decide

/-- for width tag 0 (a ctrl item: excluded by the assertion, see `get_float_ok`) the code returns the widened `NAN` = the quiet NaN
`0x7FF8000000000000`, for a width tag above 3 it returns `0.0` (`_CBOR_UNREACHABLE` expands to nothing in this configuration) -/
theorem get_float_eq (r : ItemRec) :
    (r.float_width = 1 → cbor_float_get_float r = Prelude.f32ToF64 (cbor_float_get_float2 r)) ∧
    (r.float_width = 2 → cbor_float_get_float r = Prelude.f32ToF64 (cbor_float_get_float4 r)) ∧
    (r.float_width = 3 → cbor_float_get_float r = cbor_float_get_float8 r) ∧
    (r.float_width = 0 → cbor_float_get_float r = 0x7FF8000000000000) ∧
    (3 < r.float_width.toNat → cbor_float_get_float r = 0) := by
  have hnan : Prelude.f32ToF64 2143289344 = 0x7FF8000000000000 := by decide
  unfold cbor_float_get_float cbor_float_get_width
  dsimp only
  refine ⟨fun h => ?_, fun h => ?_, fun h => ?_, fun h => ?_, fun h => ?_⟩
  · rw [h]; simp
  · rw [h]; simp
  · rw [h]; simp
  · rw [h]; simp [hnan]
  · repeat' split
    all_goals cnorm
    all_goals first | omega | (with_reducible rfl)
example : cbor_float_get_float { (default : ItemRec) with float_width := 2, data := #[0, 0, 0x80, 0x3F] } = 0x3FF0000000000000 := by decide
example : cbor_float_get_float { (default : ItemRec) with float_width := 1, data := #[1, 0, 0x80, 0x7F] } = 0x7FF8000020000000 := by decide
example : cbor_float_get_float { (default : ItemRec) with float_width := 9 } = 0 := (get_float_eq _).2.2.2.2 (by decide)

theorem get_float_set (r : ItemRec) :
    (∀ v, r.float_width = 1 → 4 ≤ r.data.size → cbor_float_get_float (cbor_set_float2 r v) = Prelude.f32ToF64 v) ∧
    (∀ v, r.float_width = 2 → 4 ≤ r.data.size → cbor_float_get_float (cbor_set_float4 r v) = Prelude.f32ToF64 v) ∧
    (∀ v, r.float_width = 3 → 8 ≤ r.data.size → cbor_float_get_float (cbor_set_float8 r v) = v) := by
  refine ⟨fun v hw hs => ?_, fun v hw hs => ?_, fun v hw hs => ?_⟩
  · rw [(get_float_eq _).1 (by rw [((setters_keep_tags r).1 v).1]; exact hw), get_set_float2 _ _ hs]
  · rw [(get_float_eq _).2.1 (by rw [((setters_keep_tags r).2.1 v).1]; exact hw), get_set_float4 _ _ hs]
  · rw [(get_float_eq _).2.2.1 (by rw [((setters_keep_tags r).2.2 v).1]; exact hw), get_set_float8 _ _ hs]
example : cbor_float_get_float (cbor_set_float4 { (default : ItemRec) with float_width := 2, data := #[0, 0, 0, 0] } 0x3F800000)
    = Prelude.f32ToF64 0x3F800000 := (get_float_set _).2.1 _ rfl (by decide)

/-- `(m, e)` denoting `m · 2^e`, normalised: common factors of two are moved from the mantissa into the exponent until the mantissa is odd;
zero is `(0, 0)`.  Two pairs denote the same number iff their normal forms are equal. -/
def norm (m : Nat) (e : Int) : Nat × Int :=
  if h0 : m = 0 then (0, 0) else if m % 2 = 0 then norm (m / 2) (e + 1) else (m, e)
termination_by m
decreasing_by omega

theorem norm_zero (e : Int) : norm 0 e = (0, 0) := by rw [norm]; simp
theorem norm_two_mul (m : Nat) (e : Int) (h : m ≠ 0) : norm (2 * m) (e - 1) = norm m e := by
  rw [norm]
  have h1 : 2 * m ≠ 0 := by omega
  have h2 : 2 * m % 2 = 0 := by omega
  have h3 : 2 * m / 2 = m := by omega
  have h4 : e - 1 + 1 = e := by omega
  simp only [h1, h2, h3, h4, dite_false, if_true]
example : norm (2 * 3) (0 - 1) = norm 3 0 := norm_two_mul 3 0 (by decide)
theorem norm_mul_two_pow (m k : Nat) (e : Int) : norm (m * 2 ^ k) (e - k) = norm m e := by
  by_cases hm : m = 0
  · subst hm; simp [norm_zero]
  induction k generalizing e with
  | zero => simp
  | succ k ih =>
    have hne : m * 2 ^ k ≠ 0 := Nat.mul_ne_zero hm (Nat.pos_iff_ne_zero.mp (Nat.pow_pos (by decide)))
    have h1 : m * 2 ^ (k + 1) = 2 * (m * 2 ^ k) := by rw [Nat.pow_succ]; ac_rfl
    have h2 : e - ((k + 1 : Nat) : Int) = (e - k) - 1 := by omega
    rw [h1, h2, norm_two_mul _ _ hne, ih]

/-- the number a binary32 pattern denotes: `(sign, m, e)` for `(-1)^sign · m · 2^e` with `m` odd, `(sign, 0, 0)` for `±0`; `none` for `±∞` and NaN -/
def valF32 (b : UInt32) : Option (Bool × Nat × Int) :=
  let n := b.toNat
  let s := decide (n / 2147483648 = 1)
  let e := n / 8388608 % 256
  let f := n % 8388608
  if e = 255 then none
  else if e = 0 then some (s, norm f (-149))                         -- subnormal / zero: f · 2^(1-127-23)
  else some (s, norm (8388608 + f) ((e : Int) - 150))                -- normal: (2^23 + f) · 2^(e-127-23)
def valF64 (b : UInt64) : Option (Bool × Nat × Int) :=
  let n := b.toNat
  let s := decide (n / 9223372036854775808 = 1)
  let e := n / 4503599627370496 % 2048
  let f := n % 4503599627370496
  if e = 2047 then none
  else if e = 0 then some (s, norm f (-1074))
  else some (s, norm (4503599627370496 + f) ((e : Int) - 1075))

example : valF32 0x3F800000 = some (false, 1, 0) := by simp [valF32, norm]                     -- 1.0
example : valF64 0x3FF0000000000000 = some (false, 1, 0) := by simp [valF64, norm]
example : valF32 0x00000001 = some (false, 1, -149) := by simp [valF32, norm]                  -- smallest subnormal
example : valF32 0xC0400000 = some (true, 3, 0) := by simp [valF32, norm]                      -- -3.0
example : valF32 0x80000000 = some (true, 0, 0) := by simp [valF32, norm]                      -- -0.0
example : valF32 0x7F800000 = none := by simp [valF32]

/-- facts about the leading bit of a non-zero 23-bit fraction -/
theorem sub_bound (f : Nat) (hf : f ≠ 0) (hlt : f < 8388608) :
    Nat.log2 f ≤ 22 ∧ 2 ^ Nat.log2 f ≤ f ∧ (f - 2 ^ Nat.log2 f) * 2 ^ (52 - Nat.log2 f) < 4503599627370496 ∧
    4503599627370496 + (f - 2 ^ Nat.log2 f) * 2 ^ (52 - Nat.log2 f) = f * 2 ^ (52 - Nat.log2 f) := by
  have hp : Nat.log2 f < 23 := (Nat.log2_lt hf).mpr hlt
  have hle : 2 ^ Nat.log2 f ≤ f := Nat.log2_self_le hf
  have hlt2 : f < 2 ^ (Nat.log2 f + 1) := Nat.lt_log2_self
  generalize Nat.log2 f = p at *
  have hq : 2 ^ p * 2 ^ (52 - p) = 4503599627370496 := by
    rw [← Nat.pow_add]; have : p + (52 - p) = 52 := by omega
    rw [this]
  have ht : 0 < 2 ^ (52 - p) := Nat.pow_pos (by decide)
  have h1 : f - 2 ^ p < 2 ^ p := by rw [Nat.pow_succ] at hlt2; omega
  have h2 : (f - 2 ^ p) * 2 ^ (52 - p) < 2 ^ p * 2 ^ (52 - p) := Nat.mul_lt_mul_of_lt_of_le h1 (Nat.le_refl _) ht
  refine ⟨by omega, hle, by omega, ?_⟩
  rw [← hq, ← Nat.add_mul]
  congr 1; omega
example : Nat.log2 5 ≤ 22 ∧ 2 ^ Nat.log2 5 ≤ 5 := ⟨(sub_bound 5 (by decide) (by decide)).1, (sub_bound 5 (by decide) (by decide)).2.1⟩

/-- exponent and fraction (the low 63 bits) of the binary64 pattern `f32ToF64` makes of the binary32 pattern `n`: infinity, NaN (quiet bit set,
payload kept), zero, subnormal (renormalised at its leading bit `Nat.log2`), normal (re-biased by 896 = 1023 − 127) -/
def widen (n : Nat) : Nat :=
  if n / 8388608 % 256 = 255 then
    (if n % 8388608 = 0 then 0x7FF0000000000000 else 0x7FF8000000000000 + n % 8388608 % 4194304 * 536870912)
  else if n / 8388608 % 256 = 0 then
    (if n % 8388608 = 0 then 0
     else (Nat.log2 (n % 8388608) + 874) * 4503599627370496 + (n % 8388608 - 2 ^ Nat.log2 (n % 8388608)) * 2 ^ (52 - Nat.log2 (n % 8388608)))
  else (n / 8388608 % 256 + 896) * 4503599627370496 + n % 8388608 * 536870912

/-- the three fields of the result, without the final reduction modulo 2^64: `sign · 2^63 + exponent · 2^52 + fraction` -/
theorem f32ToF64_toNat (b : UInt32) :
    (Prelude.f32ToF64 b).toNat = b.toNat / 2147483648 * 9223372036854775808 + widen b.toNat := by
  have hn := b.toNat_lt
  unfold Prelude.f32ToF64 widen
  simp only [UInt64.toNat_ofNat']
  apply Nat.mod_eq_of_lt
  generalize b.toNat = n at *
  repeat' split
  · omega
  · omega
  · omega
  · rename_i h1 h2 h3
    have hb := sub_bound (n % 8388608) h3 (by omega)
    generalize Nat.log2 (n % 8388608) = p at *
    generalize (n % 8388608 - 2 ^ p) * 2 ^ (52 - p) = g at *
    omega
  · omega

theorem f64_fields (s e f : Nat) (he : e < 2048) (hf : f < 4503599627370496) :
    (s * 9223372036854775808 + (e * 4503599627370496 + f)) / 4503599627370496 % 2048 = e ∧
    (s * 9223372036854775808 + (e * 4503599627370496 + f)) % 4503599627370496 = f ∧
    (s * 9223372036854775808 + (e * 4503599627370496 + f)) / 9223372036854775808 = s := by omega

/-- exactness of the widening: for every finite binary32 pattern (zeros, subnormals, normals) the binary64 pattern produced denotes the same number -/
theorem f32ToF64_exact (b : UInt32) (h : b.toNat / 8388608 % 256 ≠ 255) : valF64 (Prelude.f32ToF64 b) = valF32 b := by
  have hn := b.toNat_lt
  unfold valF64 valF32
  rw [f32ToF64_toNat, widen]
  generalize b.toNat = n at *
  simp only [h, if_false]
  by_cases he : n / 8388608 % 256 = 0
  · by_cases hf : n % 8388608 = 0
    · simp only [he, hf, if_true]
      obtain ⟨e1, e2, e3⟩ := f64_fields (n / 2147483648) 0 0 (by omega) (by omega)
      rw [Nat.zero_mul] at e1 e2 e3
      simp only [e1, e2, e3, if_true, norm_zero]
      simp
    · simp only [he, hf, if_true, if_false]
      have hb := sub_bound (n % 8388608) hf (by omega)
      obtain ⟨hp, hle, hg, hsum⟩ := hb
      have hk := norm_mul_two_pow (n % 8388608) (52 - Nat.log2 (n % 8388608)) (-149)
      rw [← hsum] at hk
      generalize Nat.log2 (n % 8388608) = p at *
      generalize (n % 8388608 - 2 ^ p) * 2 ^ (52 - p) = g at *
      obtain ⟨e1, e2, e3⟩ := f64_fields (n / 2147483648) (p + 874) g (by omega) hg
      have e4 : p + 874 ≠ 2047 := by omega
      have e5 : p + 874 ≠ 0 := by omega
      have e6 : ((p + 874 : Nat) : Int) - 1075 = -149 - ((52 - p : Nat) : Int) := by omega
      simp only [e1, e2, e3, e4, e5, if_false, e6, hk]
  · simp only [he, if_false]
    have hk := norm_mul_two_pow (8388608 + n % 8388608) 29 ((n / 8388608 % 256 : Nat) - 150)
    have hm : (8388608 + n % 8388608) * 2 ^ 29 = 4503599627370496 + n % 8388608 * 536870912 := by omega
    rw [hm] at hk
    have hf8 : n % 8388608 < 8388608 := Nat.mod_lt _ (by decide)
    have he8 : n / 8388608 % 256 < 256 := Nat.mod_lt _ (by decide)
    generalize n / 8388608 % 256 = e at *
    generalize n % 8388608 = f at *
    obtain ⟨e1, e2, e3⟩ := f64_fields (n / 2147483648) (e + 896) (f * 536870912) (by omega) (by omega)
    have e4 : e + 896 ≠ 2047 := by omega
    have e5 : e + 896 ≠ 0 := by omega
    have e6 : ((e + 896 : Nat) : Int) - 1075 = ((e : Nat) : Int) - 150 - ((29 : Nat) : Int) := by omega
    simp only [e1, e2, e3, e4, e5, if_false, e6, hk]
example : valF64 (Prelude.f32ToF64 0x00000001) = valF32 0x00000001 := f32ToF64_exact _ (by decide)
example : valF64 (Prelude.f32ToF64 0x00000001) = some (false, 1, -149) := by
  rw [f32ToF64_exact _ (by decide)]; simp [valF32, norm]

theorem f32ToF64_inf : Prelude.f32ToF64 0x7F800000 = 0x7FF0000000000000 ∧ Prelude.f32ToF64 0xFF800000 = 0xFFF0000000000000 := by decide

/-- NaN ↦ NaN, and exactly which one: sign kept, exponent all ones, the 23 fraction bits moved to the top of the 52 with the quiet bit
(bit 51) set — the payload bits 0..21 are kept, bit 22 (quiet / signalling) is forced to 1 (x86-64 `cvtss2sd`) -/
theorem f32ToF64_nan (b : UInt32) (h : C.isNaN32 b = true) :
    C.isNaN64 (Prelude.f32ToF64 b) = true ∧
    (Prelude.f32ToF64 b).toNat = b.toNat / 2147483648 * 9223372036854775808 + 0x7FF8000000000000 + b.toNat % 4194304 * 536870912 := by
  have hn := b.toNat_lt
  rw [Props.C15.isNaN32_spec] at h
  rw [Props.C15.isNaN64_spec, f32ToF64_toNat, widen]
  unfold Spec.Float.isNaN at *
  simp only [decide_eq_true_eq, Nat.reducePow, Nat.reduceSub] at *
  obtain ⟨h1, h2⟩ := h
  simp only [h1, h2, if_true, if_false]
  generalize b.toNat = n at *
  omega
example : Prelude.f32ToF64 0x7F800001 = 0x7FF8000020000000 := by decide     -- a signalling NaN comes out quiet, payload kept
example : C.isNaN64 (Prelude.f32ToF64 0xFF800001) = true := (f32ToF64_nan 0xFF800001 (by decide)).1
theorem f32ToF64_not_nan (b : UInt32) (h : C.isNaN32 b = false) : C.isNaN64 (Prelude.f32ToF64 b) = false := by
  have hn := b.toNat_lt
  rw [Props.C15.isNaN32_spec] at h
  rw [Props.C15.isNaN64_spec, f32ToF64_toNat, widen]
  unfold Spec.Float.isNaN at *
  simp only [decide_eq_false_iff_not, Nat.reducePow, Nat.reduceSub, not_and, Decidable.not_not] at *
  intro hE
  by_cases he : b.toNat / 8388608 % 256 = 255
  · have hf := h he
    simp only [he, hf, if_true] at *
    generalize b.toNat = n at *
    omega
  · exfalso
    simp only [he, if_false] at hE
    by_cases h0 : b.toNat / 8388608 % 256 = 0
    · by_cases hf : b.toNat % 8388608 = 0
      · simp only [h0, hf, if_true] at hE
        generalize b.toNat = n at *
        omega
      · simp only [h0, hf, if_true, if_false] at hE
        obtain ⟨hp, hle, hg, hsum⟩ := sub_bound (b.toNat % 8388608) hf (by omega)
        generalize Nat.log2 (b.toNat % 8388608) = p at *
        generalize (b.toNat % 8388608 - 2 ^ p) * 2 ^ (52 - p) = g at *
        generalize b.toNat = n at *
        omega
    · simp only [h0, if_false] at hE
      generalize b.toNat = n at *
      omega
example : C.isNaN64 (Prelude.f32ToF64 0x7F7FFFFF) = false := f32ToF64_not_nan _ (by decide)

/-- the four kinds of non-NaN binary32 patterns and what `f32ToF64` makes of exponent and fraction (`m` = the low 63 bits of the result) -/
theorem mag_cases (n : Nat) (h : n / 8388608 % 256 = 255 → n % 8388608 = 0) (m : Nat) (hm : m = widen n) :
    (n / 8388608 % 256 = 255 ∧ n % 8388608 = 0 ∧ m = 0x7FF0000000000000) ∨
    (n / 8388608 % 256 = 0 ∧ n % 8388608 = 0 ∧ m = 0) ∨
    (n / 8388608 % 256 = 0 ∧ ∃ p g, p ≤ 22 ∧ 2 ^ p ≤ n % 8388608 ∧ n % 8388608 < 2 ^ (p + 1) ∧ g < 4503599627370496 ∧
      g = (n % 8388608 - 2 ^ p) * 2 ^ (52 - p) ∧ m = (p + 874) * 4503599627370496 + g) ∨
    (1 ≤ n / 8388608 % 256 ∧ n / 8388608 % 256 ≤ 254 ∧ m = (n / 8388608 % 256 + 896) * 4503599627370496 + n % 8388608 * 536870912) := by
  rw [widen] at hm
  by_cases e1 : n / 8388608 % 256 = 255
  · have := h e1
    simp only [e1, this, if_true] at hm
    exact Or.inl ⟨e1, this, hm⟩
  · rw [if_neg e1] at hm
    by_cases e0 : n / 8388608 % 256 = 0
    · by_cases f0 : n % 8388608 = 0
      · simp only [e0, f0, if_true] at hm
        exact Or.inr (Or.inl ⟨e0, f0, by omega⟩)
      · simp only [e0, f0, if_true, if_false] at hm
        obtain ⟨hp, hle, hg, _⟩ := sub_bound (n % 8388608) f0 (by omega)
        exact Or.inr (Or.inr (Or.inl ⟨e0, _, _, hp, hle, Nat.lt_log2_self, hg, rfl, by omega⟩))
    · simp only [e0, if_false] at hm
      exact Or.inr (Or.inr (Or.inr ⟨by omega, by omega, hm⟩))
example : True := by
  have := mag_cases 1065353216 (by decide) _ rfl      -- the hypotheses are satisfiable: 1.0f is a normal number
  trivial

/-- injective on non-NaN patterns (every finite value and both infinities have exactly one image) … -/
theorem f32ToF64_inj (a b : UInt32) (ha : C.isNaN32 a = false) (hb : C.isNaN32 b = false)
    (h : Prelude.f32ToF64 a = Prelude.f32ToF64 b) : a = b := by
  have hna := a.toNat_lt
  have hnb := b.toNat_lt
  rw [Props.C15.isNaN32_spec] at ha hb
  unfold Spec.Float.isNaN at ha hb
  simp only [decide_eq_false_iff_not, Nat.reducePow, Nat.reduceSub, not_and, Decidable.not_not] at ha hb
  have h' := congrArg UInt64.toNat h
  rw [f32ToF64_toNat, f32ToF64_toNat] at h'
  apply UInt32.toNat_inj.mp
  generalize a.toNat = x at *
  generalize b.toNat = y at *
  -- sign, exponent and fraction of both patterns become variables below: the sixteen arithmetic goals are then free of `/` and `%`
  have dx : x = x / 2147483648 * 2147483648 + x / 8388608 % 256 * 8388608 + x % 8388608 ∧ x / 8388608 % 256 < 256 ∧ x % 8388608 < 8388608 := by
    omega
  have dy : y = y / 2147483648 * 2147483648 + y / 8388608 % 256 * 8388608 + y % 8388608 ∧ y / 8388608 % 256 < 256 ∧ y % 8388608 < 8388608 := by
    omega
  have cx := mag_cases x ha _ rfl
  have cy := mag_cases y hb _ rfl
  generalize widen x = mx at *
  generalize widen y = my at *
  generalize x / 2147483648 = sx at *
  generalize x / 8388608 % 256 = ex at *
  generalize x % 8388608 = fx at *
  generalize y / 2147483648 = sy at *
  generalize y / 8388608 % 256 = ey at *
  generalize y % 8388608 = fy at *
  rcases cx with ⟨x1, x2, x3⟩ | ⟨x1, x2, x3⟩ | ⟨x1, p, g, x2, x3, x4, x5, x6, x7⟩ | ⟨x1, x2, x3⟩ <;>
  rcases cy with ⟨y1, y2, y3⟩ | ⟨y1, y2, y3⟩ | ⟨y1, q, k, y2, y3, y4, y5, y6, y7⟩ | ⟨y1, y2, y3⟩ <;>
  (try omega)
  -- both subnormal: same leading bit, same shifted remainder, hence the same fraction
  have hpq : p = q := by omega
  subst hpq
  have hgk : g = k := by omega
  rw [x6, y6] at hgk
  have ht : 0 < 2 ^ (52 - p) := Nat.pow_pos (by decide)
  have := Nat.eq_of_mul_eq_mul_right ht hgk
  omega
example : (0x00000001 : UInt32) = 0x00000001 := f32ToF64_inj _ _ (by decide) (by decide) rfl
/-- … but not on NaNs: a signalling NaN and the quiet NaN with the same payload have the same image -/
theorem f32ToF64_nan_collision : Prelude.f32ToF64 0x7F800001 = Prelude.f32ToF64 0x7FC00001 := by decide

/-- the generic getter returns a `double` denoting exactly the number the stored `float` denotes (finite case) -/
theorem get_float_value (r : ItemRec) :
    (r.float_width = 1 → (cbor_float_get_float2 r).toNat / 8388608 % 256 ≠ 255 →
      valF64 (cbor_float_get_float r) = valF32 (cbor_float_get_float2 r)) ∧
    (r.float_width = 2 → (cbor_float_get_float4 r).toNat / 8388608 % 256 ≠ 255 →
      valF64 (cbor_float_get_float r) = valF32 (cbor_float_get_float4 r)) := by
  refine ⟨fun hw hf => ?_, fun hw hf => ?_⟩
  · rw [(get_float_eq r).1 hw, f32ToF64_exact _ hf]
  · rw [(get_float_eq r).2.1 hw, f32ToF64_exact _ hf]
example : valF64 (cbor_float_get_float { (default : ItemRec) with float_width := 2, data := #[0, 0, 0x40, 0xC0] }) = some (true, 3, 0) := by
  rw [(get_float_value _).2 rfl (by decide)]; simp [valF32, norm, cbor_float_get_float4, C.loadLE32, C.leNat]

end Props.FloatAccessors
