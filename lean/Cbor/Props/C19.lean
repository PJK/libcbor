import Cbor.Lemmas.LoadFacts
/-!
# C19 — the nesting limit is exact for every configured value

`Model.load` and every theorem about it (C02, C05, C14) are parametric in the decoding-stack limit `L`; the
harness is rebuilt at several values of `CBOR_MAX_STACK_SIZE` and compared against the model run with the same `L`.
What "exact" means is fixed by the reference decoder `Spec.item`: with `d` levels open, a head that opens a
level (tag, indefinite item, non-empty definite array/map, chunked string — `Tok.opens`) is MEMERROR just past
that head iff `d ≥ L`; empty definite containers, scalars and definite strings never are.
-/
namespace Props.C19
open Model Spec Abs Lemmas Lemmas.Refine

/-- for **every** `L`: the outcome of the model is the outcome of the reference decoder with limit `L` -/
theorem C19_all_limits (L : Nat) (src : Array UInt8) (hsz : src.size < 2 ^ 56) (r0 : LoadResult) :
    let o := Model.load ωT L r0 src
    match Spec.decode true L okGuard (getOf src) src.size with
    | .ok x n => o.item = some x ∧ o.result = { code := .none, position := 0, read := n } ∧ o.fault = false
    | .nodata => o.item = none ∧ o.result = { code := .noData, position := 0, read := 0 } ∧ o.fault = false
    | .fail e p => o.item = none ∧ o.result = { code := codeOf e, position := p, read := p } ∧ o.fault = false :=
  load_eq src hsz L r0

/-- the abstract decoding stack never holds more than `L` frames: the builder recursion (`_cbor_builder_append`
cascades through at most the stack) and the unwinding loop are bounded by `L` -/
theorem C19_stack_bound (L : Nat) (okA : AllocOk) (get : Nat → UInt8) (p : Nat) (tok : Tok) (s s' : List Abs.Frame)
    (h : stepTok L okA get p tok s = .cont s') (hL : s.length ≤ L) : s'.length ≤ L :=
  stepTok_len L okA get p tok s s' h hL

/-- a head that opens a level while `L` levels are open is refused with MEMERROR, whatever it is -/
theorem C19_reject_step (L : Nat) (okA : AllocOk) (get : Nat → UInt8) (p : Nat) (tok : Tok) (s : List Abs.Frame)
    (hopen : tok.opens = true) (hok : okA tok = true) (hfull : s.length ≥ L) :
    stepTok L okA get p tok s = .mem := by
  cases tok <;> simp_all [stepTok, Tok.opens, push]

/-- a head that opens a level while fewer than `L` levels are open is never refused for depth -/
theorem C19_accept_step (L : Nat) (okA : AllocOk) (get : Nat → UInt8) (p : Nat) (tok : Tok) (s : List Abs.Frame)
    (hopen : tok.opens = true) (hok : okA tok = true) (hroom : s.length < L) :
    ∃ f, stepTok L okA get p tok s = .cont (f :: s) := by
  have hn : ¬ L ≤ s.length := by omega
  cases tok <;> simp_all [stepTok, Tok.opens, push] <;> exact ⟨_, by rw [if_neg (by omega)]⟩

/-- heads that open no level are never MEMERROR for depth, at any depth -/
theorem C19_flat_step (L L' : Nat) (okA : AllocOk) (get : Nat → UInt8) (p : Nat) (tok : Tok) (s : List Abs.Frame)
    (hflat : tok.opens = false) : stepTok L okA get p tok s = stepTok L' okA get p tok s := by
  cases tok <;> simp_all [stepTok, Tok.opens]

-- non-vacuity, L = 1 and L = 2 (kernel-evaluated through the generated decoder)
example : (Model.load ωT 1 ⟨.none, 7, 7⟩ #[0x81, 0x81, 0x00]).result = ⟨.mem, 2, 2⟩ := by decide +kernel
example : (Model.load ωT 2 ⟨.none, 7, 7⟩ #[0x81, 0x81, 0x00]).result = ⟨.none, 0, 3⟩ := by decide +kernel
example : (Model.load ωT 1 ⟨.none, 7, 7⟩ #[0x81, 0x80]).result = ⟨.none, 0, 2⟩ := by decide +kernel   -- empty array opens no level

end Props.C19
