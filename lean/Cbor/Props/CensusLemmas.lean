import Cbor.Props.Census
/-! Facts that let the census theorems walk the generated tables once: `List.range n` filtered through `getD` indexes the
table afresh for every row, which is quadratic in the kernel. -/
namespace Props.Census
open Gen.Effects

theorem filter_range_getD {α : Type} (l : List α) (d : α) (p : α → Bool) (n : Nat) (hn : n ≤ l.length) :
    (List.range n).filter (fun i => p (l.getD i d)) = ((l.take n).zipIdx.filter (fun x => p x.1)).map (·.2) := by
  have hr : List.range n = (l.take n).zipIdx.map (·.2) := by
    rw [List.zipIdx_map_snd, List.length_take, Nat.min_eq_left hn, List.range_eq_range']
  rw [hr, List.filter_map]
  congr 1
  apply List.filter_congr
  intro x hx
  obtain ⟨x1, x2⟩ := x
  obtain ⟨-, h2, h3⟩ := List.mem_zipIdx hx
  simp only [Nat.zero_add, Nat.sub_zero, List.getElem_take] at h2 h3
  have hl : x2 < l.length := by rw [List.length_take] at h2; omega
  simp only [Function.comp, List.getD_eq_getElem?_getD, List.getElem?_eq_getElem hl, Option.getD_some, h3]

theorem nDefined_le_names : nDefined ≤ names.length := by decide +kernel
theorem nDefined_le_calls : nDefined ≤ calls.length := by decide +kernel

theorem filter_nameOf (p : String → Bool) :
    (List.range nDefined).filter (fun i => p (nameOf i)) = (((names.take nDefined).zipIdx.filter fun x => p x.1).map (·.2)) :=
  filter_range_getD names "?" p nDefined nDefined_le_names

theorem filter_calleesOf (p : List Nat → Bool) :
    (List.range nDefined).filter (fun i => p (calleesOf i)) = (((calls.take nDefined).zipIdx.filter fun x => p x.1).map (·.2)) :=
  filter_range_getD calls [] p nDefined nDefined_le_calls

theorem nameOf_mem (c : Nat) : nameOf c ∈ "?" :: names := by
  unfold nameOf
  rw [List.getD_eq_getElem?_getD]
  cases h : names[c]? with
  | none => exact List.mem_cons_self
  | some n => exact List.mem_cons_of_mem _ (List.mem_of_getElem? h)

end Props.Census
