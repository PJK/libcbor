import Cbor.Lemmas.LoadFacts
import Cbor.Lemmas.Local
/-!
# C14 — items decode independently of what follows them: CBOR sequences work

Over `Model.load` (see C02): every acceptable `x`, every `y`, every nesting limit.
-/
namespace Props.C14
open Model Spec Lemmas.Refine Lemmas.LoadFacts Lemmas.Local

/-- **decoding `x ++ y` yields the same tree and the same bytes-read count as decoding `x` alone**, whatever the two calls
find in the result struct -/
theorem C14_suffix (x y : Array UInt8) (hsz : (x ++ y).size < 2 ^ 56) (L : Nat) (r0 r0' : LoadResult) (t : Item) (n : Nat)
    (hok : (Model.load ωT L r0 x).item = some t ∧ (Model.load ωT L r0 x).result.read = n) :
    (Model.load ωT L r0' (x ++ y)).item = some t ∧ (Model.load ωT L r0' (x ++ y)).result.read = n := by
  have hx : x.size < 2 ^ 56 := by simp at hsz; omega
  have hdec := (load_ok_iff x hx L r0 t n).mp hok
  obtain ⟨hne, hrun⟩ := (decode_ok_iff_run L (getOf x) x.size t n).mp hdec
  have hm := run_ok_bounds hrun
  have hrun' := run_suffix (get' := getOf (x ++ y)) (len' := (x ++ y).size) (x.size + 1) ((x ++ y).size + 1) [] 0 t n hrun
    (fun i hi => getOf_append_left x y i (by omega)) (by simp only [Array.size_append]; omega) (by omega)
  exact (load_ok_iff (x ++ y) hsz L r0' t n).mpr
    ((decode_ok_iff_run L (getOf (x ++ y)) (x ++ y).size t n).mpr ⟨by simp only [Array.size_append]; omega, hrun'⟩)

theorem extract_append_size (x y : Array UInt8) : (x ++ y).extract x.size (x ++ y).size = y := by
  apply Array.ext
  · simp
  · intro i h1 h2
    simp

/-- hence repeatedly decoding at an offset advanced by bytes-read splits a concatenation of two items into
exactly those two items, the second read starting exactly where the first ended (and so on inductively) -/
theorem C14_two (x y : Array UInt8) (hsz : (x ++ y).size < 2 ^ 56) (L : Nat) (r0 : LoadResult) (t : Item)
    (hx : (Model.load ωT L r0 x).item = some t ∧ (Model.load ωT L r0 x).result.read = x.size) :
    (Model.load ωT L r0 (x ++ y)).item = some t ∧ (Model.load ωT L r0 (x ++ y)).result.read = x.size ∧
    (x ++ y).extract x.size (x ++ y).size = y :=
  have := C14_suffix x y hsz L r0 r0 t x.size hx
  ⟨this.1, this.2, extract_append_size x y⟩

end Props.C14
