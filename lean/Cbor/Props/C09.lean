import Cbor.Model.StreamClient
import Cbor.Props.C08
/-!
# C09 — feeding a stream in fragments yields the same events as one-shot decoding

`client` is the protocol the property describes, run against the **generated** `Gen.cbor_stream_decode`:
buffer what has arrived, call the decoder on the buffered bytes from the current position, on FINISHED hand
the callback's event on and advance by `read`, on NEDATA wait until `required` bytes are buffered (the stream
may end first), on ERROR stop.  `tokens` is the RFC 8949 tokenisation of the complete stream.
-/
namespace Props.C09
open Gen Lemmas Spec Model

/-- RFC tokenisation of the complete stream from offset `p`: each head with its offset, until the stream
ends, a head is incomplete, or an initial byte is reserved -/
def tokens (src : Array UInt8) : Nat → Nat → List (Tok × Nat)
  | 0, _ => []
  | f+1, p =>
    match decodeHead (getA src p) (src.size - p) with
    | .ok t l => (t, p) :: tokens src f (p + l)
    | _ => []

theorem waitFor_spec (target : Nat) : ∀ (arr : List Nat) (avail : Nat),
    (waitFor target avail arr).1 + (waitFor target avail arr).2.sum = avail + arr.sum ∧ avail ≤ (waitFor target avail arr).1
  | [], avail => by simp [waitFor]
  | a :: rest, avail => by
    unfold waitFor
    split
    · simp
    · have := waitFor_spec target rest (avail + a)
      simp only [List.sum_cons]
      omega

theorem waitFor_short (target : Nat) : ∀ (arr : List Nat) (avail : Nat), (waitFor target avail arr).1 < target →
    (waitFor target avail arr).1 = avail + arr.sum
  | [], avail, _ => by simp [waitFor]
  | a :: rest, avail, h => by
    unfold waitFor at h ⊢
    split
    · rename_i hge; rw [if_pos hge] at h; omega
    · rename_i hlt
      rw [if_neg hlt] at h
      rw [waitFor_short target rest (avail + a) h, List.sum_cons]; omega

inductive Matches {α β : Type} (R : α → β → Prop) : List α → List β → Prop
  | nil : Matches R [] []
  | cons {a b as bs} : R a b → Matches R as bs → Matches R (a :: as) (b :: bs)

def Denotes (e : Event) (tp : Tok × Nat) : Prop := tokMatch tp.2 e tp.1 = true

/-- **Fragmentation is invisible.**  From any state of the client (`p` bytes consumed, `avail` buffered, the fragments `arr`
still to arrive making up the rest of the stream) the events it receives are, one for one and in order, events denoting
the tokens of the complete stream from `p` on.  `m` bounds the bytes not yet consumed plus the bytes not yet arrived:
every round of the client consumes a head or waits for more bytes, so the induction is on `m`.  `f` and `ft` are the fuels
of `client` (one unit per round) and of `tokens` (one per head). -/
theorem C09_fragments (src : Array UInt8) (hsz : src.size < 2 ^ 64 - 1) :
    ∀ (m p avail : Nat) (arr : List Nat), (src.size - p) + (src.size - avail) ≤ m → p ≤ avail → avail + arr.sum = src.size →
      ∀ f ft, m < f → src.size - p < ft → Matches Denotes (client src f p avail arr) (tokens src ft p) := by
  intro m
  induction m using Nat.strongRecOn with
  | _ m ih =>
    intro p avail arr hm hpa hsum f ft hf hft
    have hav : avail ≤ src.size := by omega
    cases f with
    | zero => omega
    | succ f =>
      cases ft with
      | zero => omega
      | succ ft =>
        have hrel := sd_rel_nat src p (avail - p) (by omega)
        unfold client
        simp only
        generalize cbor_stream_decode src p (UInt64.ofNat (avail - p)) = d at hrel ⊢
        cases hspec : decodeHead (getA src p) (avail - p) with
        | ok t l =>
          obtain ⟨(h1 : d.1.status = 0), h2, _, e, h4, h5⟩ := hrel.ok hspec
          have hok := decodeHead_ok hspec
          have hone : decodeHead (getA src p) (src.size - p) = .ok t l :=
            decodeHead_prefix hspec (fun _ _ => rfl) (by omega)
          rw [if_pos h1, h2, h4]
          unfold tokens
          rw [hone]
          refine Matches.cons h5 ?_
          exact ih (m - 1) (by omega) (p + l) avail arr (by omega) (by omega) hsum f ft (by omega) (by omega)
        | nedata need =>
          obtain ⟨(h1 : d.1.status = 1), _, h3, h4⟩ := hrel.nedata hspec
          have hlt := decodeHead_nedata hspec
          rw [if_neg (by rw [h1]; decide), if_pos h1]
          have hw := waitFor_spec (p + d.1.required.toNat) arr avail
          split
          · -- the stream ended before the wait was satisfied: the complete stream has no complete token here either
            rename_i hshort
            unfold tokens
            cases hone : decodeHead (getA src p) (src.size - p) with
            | ok t l =>
              -- all bytes arrive, so a wait for at most `l` bytes would have been satisfied
              have hle := decodeHead_need_le hspec hone
              have hok := decodeHead_ok hone
              have := waitFor_short _ arr avail hshort
              omega
            | nedata n2 => exact Matches.nil
            | error => exact Matches.nil
          · exact ih (m - 1) (by omega) p _ _ (by omega) (by omega) (by omega) f (ft + 1) (by omega) (by omega)
        | error =>
          have h1 : d.1.status = 2 := (hrel.error hspec).1
          rw [if_neg (by rw [h1]; decide), if_neg (by rw [h1]; decide)]
          have hn0 : avail - p ≠ 0 := fun e => by rw [e] at hspec; cases hspec
          unfold tokens
          rw [decodeHead_error_stable (n' := src.size - p) hspec (by omega)]
          exact Matches.nil

/-- the whole stream, any fragmentation: the client started with nothing consumed receives the events of the complete tokenisation -/
theorem C09_from_start (src : Array UInt8) (hsz : src.size < 2 ^ 64 - 1) (first : Nat) (arr : List Nat) (hsum : first + arr.sum = src.size) :
    Matches Denotes (client src (2 * src.size + 1) 0 first arr) (tokens src (src.size + 1) 0) :=
  C09_fragments src hsz (2 * src.size) 0 first arr (by omega) (by omega) hsum _ _ (by omega) (by omega)

/-- **Waits are tight.**  On NEDATA `required` exceeds what is buffered, and when the item is complete in the
stream it does not exceed the bytes the item occupies — so a stream that ends on an item boundary is delivered completely. -/
theorem C09_wait_bounds (src : Array UInt8) (p n : Nat) (hn : n < 2 ^ 64 - 1)
    (hs : (cbor_stream_decode src p (UInt64.ofNat n)).1.status = 1) :
    n < (cbor_stream_decode src p (UInt64.ofNat n)).1.required.toNat ∧
    ∀ n' t l, decodeHead (getA src p) n' = .ok t l → (cbor_stream_decode src p (UInt64.ofNat n)).1.required.toNat ≤ l := by
  have hrel := sd_rel_nat src p n (by omega)
  cases hspec : decodeHead (getA src p) n with
  | ok t l => exact absurd ((hrel.ok hspec).1.symm.trans hs).symm nedata_ne_finished
  | error => exact absurd ((hrel.error hspec).1.symm.trans hs) error_ne_nedata
  | nedata need =>
    have h4 := (hrel.nedata hspec).2.2.2
    have hlt := decodeHead_nedata hspec
    refine ⟨by rw [h4]; omega, fun n' t l hone => ?_⟩
    have := decodeHead_need_le hspec hone
    rw [h4]; exact Nat.le_trans (Nat.min_le_left _ _) this

theorem tokens_payload (src : Array UInt8) : ∀ (ft p : Nat) (tp : Tok × Nat), tp ∈ tokens src ft p →
    ∀ o pl, tp.1.payload = some (o, pl) → 1 ≤ o
  | 0, _, _, h => by simp [tokens] at h
  | ft+1, p, tp, h => by
    unfold tokens at h
    cases hd : decodeHead (getA src p) (src.size - p) with
    | ok t l =>
      rw [hd] at h
      rcases List.mem_cons.mp h with e | e
      · subst e
        intro o pl hp
        exact ((decodeHead_ok hd).2.2 o pl hp).1
      · exact tokens_payload src ft (p + l) tp e
    | nedata n => rw [hd] at h; simp at h
    | error => rw [hd] at h; simp at h

theorem matches_unique {es es' : List Event} {ts : List (Tok × Nat)}
    (hp : ∀ tp ∈ ts, ∀ o pl, tp.1.payload = some (o, pl) → 1 ≤ o)
    (h : Matches Denotes es ts) (h' : Matches Denotes es' ts) : es = es' := by
  induction h generalizing es' with
  | nil => cases h'; rfl
  | cons hab _ ih =>
    cases h' with
    | cons hab' hrest =>
      have e := Props.C08.tokMatch_inj hab hab' (hp _ (by simp))
      subst e
      rw [ih (fun tp htp => hp tp (by simp [htp])) hrest]

/-- **Same callbacks, same arguments, same order**: any two ways of fragmenting the same stream give the client the
identical event list — in particular any fragmentation gives the list one-shot decoding of the whole buffer gives. -/
theorem C09_same_events (src : Array UInt8) (hsz : src.size < 2 ^ 64 - 1) (first first' : Nat) (arr arr' : List Nat)
    (hsum : first + arr.sum = src.size) (hsum' : first' + arr'.sum = src.size) :
    client src (2 * src.size + 1) 0 first arr = client src (2 * src.size + 1) 0 first' arr' :=
  matches_unique (tokens_payload src _ 0) (C09_from_start src hsz first arr hsum) (C09_from_start src hsz first' arr' hsum')

/-- one-shot decoding is the fragmentation in which everything is buffered from the start -/
theorem C09_equals_one_shot (src : Array UInt8) (hsz : src.size < 2 ^ 64 - 1) (first : Nat) (arr : List Nat)
    (hsum : first + arr.sum = src.size) :
    client src (2 * src.size + 1) 0 first arr = client src (2 * src.size + 1) 0 src.size [] :=
  C09_same_events src hsz first src.size arr [] hsum (by simp)

/-! non-vacuity: byte-at-a-time delivery of `[1, "a", [2]]` yields the five events of its tokenisation -/
example :
    let src : Array UInt8 := #[0x83, 0x01, 0x61, 0x61, 0x81, 0x02]
    (client src 13 0 0 [1, 1, 1, 1, 1, 1]).map Event.fmt = ["array_start 3", "uint8 1", "string 3 1", "array_start 1", "uint8 2"] ∧
    (tokens src 7 0).length = 5 := by decide

end Props.C09
