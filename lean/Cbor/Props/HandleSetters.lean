import Cbor.Gen.Accessors2
import Cbor.Props.Accessors
import Cbor.Props.C16
/-!
# `cbor_string_set_handle` / `cbor_bytestring_set_handle`: theorems over the generated definitions (`Cbor.Gen.Accessors2`)

Both are regenerated from src/cbor/strings.c / src/cbor/bytestrings.c on every run.  The pointer parameter `data` is the byte sequence
it points to (`Array UInt8`); `item->data = data` makes it the `data` of the record; `cbor_string_set_handle` calls the generated
`_cbor_unicode_codepoint_count` (the function C16 is about) and stores its count when the status is OK, `0` otherwise.
-/
set_option linter.unusedSimpArgs false
namespace Props.HandleSetters
open Gen Lemmas.Utf8 Props.Accessors

/-- of the record only `data`, `str_length` and `str_codepoints` change -/
theorem string_set_handle_fields (r : ItemRec) (bytes : Array UInt8) (len : UInt64) :
    cbor_string_set_handle r bytes len =
      { r with data := bytes, str_length := len, str_codepoints := (cbor_string_set_handle r bytes len).str_codepoints } := by
  dsimp only [cbor_string_set_handle]
  repeat' split
  all_goals rfl
theorem string_set_handle_length (r : ItemRec) (bytes : Array UInt8) (len : UInt64) :
    cbor_string_length (cbor_string_set_handle r bytes len) = len := by
  rw [string_set_handle_fields, string_length_eq]
theorem string_set_handle_data (r : ItemRec) (bytes : Array UInt8) (len : UInt64) :
    (cbor_string_set_handle r bytes len).data = bytes := by
  rw [string_set_handle_fields]

theorem bytestring_set_handle_eq (r : ItemRec) (bytes : Array UInt8) (len : UInt64) :
    cbor_bytestring_set_handle r bytes len = { r with data := bytes, bs_length := len } := by
  dsimp only [cbor_bytestring_set_handle]
theorem bytestring_set_handle_length (r : ItemRec) (bytes : Array UInt8) (len : UInt64) :
    cbor_bytestring_length (cbor_bytestring_set_handle r bytes len) = len ∧ (cbor_bytestring_set_handle r bytes len).data = bytes := by
  rw [bytestring_set_handle_eq, bytestring_length_eq]
  exact ⟨rfl, rfl⟩

/-- the result of the generated counter does not depend on what the caller left in the status struct (`cbor_string_set_handle` passes an
uninitialised one) -/
theorem count_indep (src : Array UInt8) (off : Nat) (len : UInt64) (s s' : S__cbor_unicode_status) :
    _cbor_unicode_codepoint_count src off len s = _cbor_unicode_codepoint_count src off len s' := by
  rw [(count_eq_ref src off len s).1, (count_eq_ref src off len s').1]

/-- the stored count = the count reported by `_cbor_unicode_codepoint_count` on the `len` bytes when its status is `_CBOR_UNICODE_OK`,
and `0` otherwise (the `else` branch) -/
theorem string_set_handle_count (r : ItemRec) (bytes : Array UInt8) (len : UInt64) (st0 : S__cbor_unicode_status) :
    cbor_string_codepoint_count (cbor_string_set_handle r bytes len) =
      if (_cbor_unicode_codepoint_count bytes 0 len st0).2.status = _CBOR_UNICODE_OK then (_cbor_unicode_codepoint_count bytes 0 len st0).1
      else 0 := by
  rw [string_codepoint_count_eq]
  generalize hX : _cbor_unicode_codepoint_count bytes 0 len st0 = X
  dsimp only [cbor_string_set_handle, _CBOR_UNICODE_OK]
  rw [count_indep bytes 0 len _ st0, hX]
  by_cases h : X.2.status = 0 <;> simp [h]

/-- … hence it does not depend on the item the handle is attached to: not on the count it had before, nor on anything else -/
theorem string_set_handle_count_indep (r r' : ItemRec) (bytes : Array UInt8) (len : UInt64) :
    (cbor_string_set_handle r bytes len).str_codepoints = (cbor_string_set_handle r' bytes len).str_codepoints := by
  have h := string_set_handle_count r bytes len ⟨0, 0⟩
  have h' := string_set_handle_count r' bytes len ⟨0, 0⟩
  rw [string_codepoint_count_eq] at h h'
  rw [h, h']

/-- after `cbor_string_set_handle(item, bytes, len)` (with at least `len` bytes behind the pointer) the item reports the number
of `UTF8-char`s (Unicode scalar values) of the `len` bytes if they are `UTF8-octets` per RFC 3629 §4, and `0` otherwise —
`Spec.Utf8.codepointCount`, the specification side of C16 -/
theorem string_set_handle_count_spec (r : ItemRec) (bytes : Array UInt8) (len : UInt64) (h : len.toNat ≤ bytes.size) :
    (cbor_string_codepoint_count (cbor_string_set_handle r bytes len)).toNat = Spec.Utf8.codepointCount (bl bytes 0 len.toNat 0) := by
  rw [string_set_handle_count r bytes len ⟨0, 0⟩]
  have hc := Props.C16.C16_count bytes 0 len (by omega) ⟨0, 0⟩
  simp only at hc
  unfold Spec.Utf8.codepointCount
  cases hs : Spec.Utf8.count (bl bytes 0 len.toNat 0) with
  | some n =>
    rw [hs] at hc
    simp only [hc.2, if_true, Option.getD_some, hc.1]
  | none =>
    rw [hs] at hc
    have : ¬ (_CBOR_UNICODE_BADCP = _CBOR_UNICODE_OK) := by decide
    simp only [hc.2, this, if_false, Option.getD_none, UInt64.toNat_zero]
example : (cbor_string_codepoint_count (cbor_string_set_handle { (default : ItemRec) with str_codepoints := 7 } #[0x68, 0xC3, 0xA9] 3)).toNat = 2 := by
  rw [string_set_handle_count_spec _ _ _ (by decide)]; decide
example : (cbor_string_codepoint_count (cbor_string_set_handle { (default : ItemRec) with str_codepoints := 7 } #[0xED, 0xA0, 0x80] 3)).toNat = 0 := by
  rw [string_set_handle_count_spec _ _ _ (by decide)]; decide           -- a surrogate: invalid, so 0 — not the 7 the item had before

theorem bl_eq_take (src : Array UInt8) (k p : Nat) (h : p + k ≤ src.size) :
    bl src 0 k p = ((src.toList.drop p).take k).map UInt8.toNat := by
  induction k generalizing p with
  | zero => simp [bl]
  | succ k ih =>
    have hp : p < src.toList.length := by simp; omega
    rw [bl, ih (p + 1) (by omega), List.drop_eq_getElem_cons hp]
    simp [Array.getD_eq_getD_getElem?, Array.getElem?_eq_getElem (show p < src.size by omega)]
example : bl #[0x41, 0xC3, 0xA9] 0 2 1 = [0xC3, 0xA9] := by rw [bl_eq_take _ _ _ (by decide)]; decide
theorem string_set_handle_count_spec' (r : ItemRec) (bytes : Array UInt8) (len : UInt64) (h : len.toNat ≤ bytes.size) :
    (cbor_string_codepoint_count (cbor_string_set_handle r bytes len)).toNat =
      Spec.Utf8.codepointCount ((bytes.toList.take len.toNat).map UInt8.toNat) := by
  rw [string_set_handle_count_spec r bytes len h, bl_eq_take bytes len.toNat 0 (by omega)]
  simp
example : (cbor_string_codepoint_count (cbor_string_set_handle default #[0xE2, 0x82, 0xAC, 0xFF] 3)).toNat = 1 := by
  rw [string_set_handle_count_spec' _ _ _ (by decide)]; decide           -- only the first `len` bytes count

/-- the count never exceeds the length (the `CBOR_ASSERT` of the function) -/
theorem string_set_handle_count_le (r : ItemRec) (bytes : Array UInt8) (len : UInt64) (h : len.toNat ≤ bytes.size) :
    (cbor_string_codepoint_count (cbor_string_set_handle r bytes len)).toNat ≤ (cbor_string_length (cbor_string_set_handle r bytes len)).toNat := by
  rw [string_set_handle_count_spec r bytes len h, string_set_handle_length]
  unfold Spec.Utf8.codepointCount Spec.Utf8.count
  cases hs : Spec.Utf8.countFuel (bl bytes 0 len.toNat 0).length (bl bytes 0 len.toNat 0) with
  | none => simp
  | some n =>
    have := Props.C16.count_le_length _ _ _ hs
    rw [bl_length] at this
    simpa using this
example : (cbor_string_codepoint_count (cbor_string_set_handle default #[0x41] 1)).toNat ≤ (cbor_string_length (cbor_string_set_handle default #[0x41] 1)).toNat :=
  string_set_handle_count_le _ _ _ (by decide)

theorem bytestring_set_handle_ok (r : ItemRec) (bytes : Array UInt8) (len : UInt64) :
    cbor_bytestring_set_handle.ok r bytes len = true ↔ r.type = 2 ∧ r.bs_type = 0 := by
  dsimp only [cbor_bytestring_set_handle.ok]
  acc_decide

theorem string_set_handle_ok_imp (r : ItemRec) (bytes : Array UInt8) (len : UInt64) (h : cbor_string_set_handle.ok r bytes len = true) :
    r.type = 3 ∧ r.str_type = 0 := by
  dsimp only [cbor_string_set_handle.ok] at h
  revert h
  acc_decide
example : ({ (default : ItemRec) with type := 3 } : ItemRec).type = 3 ∧ ({ (default : ItemRec) with type := 3 } : ItemRec).str_type = 0 :=
  string_set_handle_ok_imp _ #[0x41] 1 (by decide)
/-- with at least `len` bytes behind the pointer nothing but the type assertion can fail: the counter reads inside the bytes (`C16_safe`)
and its count is at most `len` (`count_le_length`) -/
theorem string_set_handle_ok (r : ItemRec) (bytes : Array UInt8) (len : UInt64) (hs : len.toNat ≤ bytes.size) :
    cbor_string_set_handle.ok r bytes len = true ↔ r.type = 3 ∧ r.str_type = 0 := by
  refine ⟨string_set_handle_ok_imp r bytes len, fun ⟨h1, h2⟩ => ?_⟩
  have hsafe : ∀ st0, _cbor_unicode_codepoint_count.ok bytes 0 len st0 = true := fun st0 => Props.C16.C16_safe bytes 0 len (by omega) st0
  have hle : ∀ st0, (_cbor_unicode_codepoint_count bytes 0 len st0).1 ≤ len := by
    intro st0
    have hc := Props.C16.C16_count bytes 0 len (by omega) st0
    simp only at hc
    rw [UInt64.le_iff_toNat_le]
    unfold Spec.Utf8.count at hc
    cases hq : Spec.Utf8.countFuel (bl bytes 0 len.toNat 0).length (bl bytes 0 len.toNat 0) with
    | some n =>
      rw [hq] at hc
      have := Props.C16.count_le_length _ _ _ hq
      rw [bl_length] at this
      omega
    | none =>
      rw [hq] at hc
      rw [hc.1]; simp
  dsimp only [cbor_string_set_handle.ok]
  simp only [hsafe, hle, decide_true, Bool.and_true, Bool.true_and]
  acc_decide
example : cbor_string_set_handle.ok { (default : ItemRec) with type := 3 } #[0x41, 0x42] 2 = true :=
  (string_set_handle_ok _ _ _ (by decide)).2 ⟨rfl, rfl⟩
example : cbor_string_set_handle.ok { (default : ItemRec) with type := 3 } #[0xC3] 2 = false := by decide   -- a read behind the buffer

end Props.HandleSetters
