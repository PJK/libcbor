import Cbor.Model.Builder
import Cbor.Model.Serialize
import Cbor.Gen.MemoryUtils
/-!
# Heap-level model of the item API: reference counts, ownership, capacities, allocator requests

Hand-written; mirrors `src/cbor/common.c` (incref / decref / move), `arrays.c`, `maps.c`, `bytestrings.c`,
`strings.c`, `tags.c`, `ints.c`, `floats_ctrls.c` and `cbor_copy` in `src/cbor.c` at the level the
properties C04, C06, C11, C12, C13 speak about: which items exist, who references whom, every reference count,
every container's contents and capacity, the order and number of allocator requests (an *oracle* decides
which requests are granted), and how many allocator blocks are live.  Addresses are not modelled: an item is
a `Ref` (an index that is never reused).  The overflow guards are the **generated** `Gen._cbor_safe_to_multiply`.

Tied to the C code by the `H…` history operations of the harness (`harness/hist_ops.c`) and driver
(`Cbor/Drv/HistOps.lean`): after every operation both print the result, every slot's reference count,
container sizes and capacities, the number of live blocks and of allocator requests.
-/
namespace Heap
open Spec (Item Width)

abbrev Ref := Nat

inductive Node
  | int (neg : Bool) (w : Width) (v : Nat)
  | str (text : Bool) (bytes : List UInt8)                  -- definite string owning its payload block
  | strI (text : Bool) (chunks : List Ref) (cap : Nat)      -- indefinite string: chunk items, chunk capacity
  | arr (definite : Bool) (items : List Ref) (alloc : Nat)
  | map (definite : Bool) (pairs : List (Ref × Ref)) (alloc : Nat)
  | tag (n : Nat) (item : Option Ref)
  | ctrl (v : Nat)
  | half (f : Nat)
  | single (b : Nat)
  | double (b : Nat)
deriving Repr, Inhabited, DecidableEq

/-- the references a node holds, in the order `cbor_decref` releases them -/
def Node.children : Node → List Ref
  | .strI _ cs _ => cs
  | .arr _ xs _ => xs
  | .map _ ps _ => ps.flatMap fun kv => [kv.1, kv.2]
  | .tag _ (some x) => [x]
  | _ => []

/-- allocator blocks a node occupies (item header, payload / slot array / chunk bookkeeping) -/
def Node.blocks : Node → Nat
  | .str _ _ => 2
  | .strI _ _ cap => 2 + (if cap = 0 then 0 else 1)
  | .arr true _ _ => 2
  | .arr false _ a => 1 + (if a = 0 then 0 else 1)
  | .map true _ _ => 2
  | .map false _ a => 1 + (if a = 0 then 0 else 1)
  | _ => 1

structure Cell where
  node : Node
  rc : Nat
deriving Repr, Inhabited, DecidableEq

structure H where
  cells : List (Option Cell) := []     -- index = Ref; `none` = released
  reqs : Nat := 0                      -- allocator requests made so far
  fault : Bool := false                -- the client broke a rule (touched a released item, wrong type, …)
deriving Repr, Inhabited

/-- which allocator requests (by index) are granted -/
abbrev Oracle := Nat → Bool

def H.get (h : H) (r : Ref) : Option Cell := (h.cells[r]?).join
def H.put (h : H) (r : Ref) (c : Option Cell) : H := { h with cells := h.cells.set r c }
def H.new (h : H) (n : Node) : Ref × H := (h.cells.length, { h with cells := h.cells ++ [some ⟨n, 1⟩] })
def H.req (ω : Oracle) (h : H) : Bool × H := (ω h.reqs, { h with reqs := h.reqs + 1 })
def H.bad (h : H) : H := { h with fault := true }
def H.liveBlocks (h : H) : Nat := (h.cells.map fun c => match c with | some c => c.node.blocks | none => 0).sum
def H.liveCells (h : H) : Nat := (h.cells.filter Option.isSome).length

def H.incref (h : H) (r : Ref) : H :=
  match h.get r with
  | some c => h.put r (some { c with rc := c.rc + 1 })
  | none => h.bad

/-- `cbor_decref`: drop one reference; at zero release the item and drop the references it held -/
def decref : Nat → H → Ref → H
  | 0, h, _ => h.bad
  | f+1, h, r =>
    match h.get r with
    | none => h.bad
    | some c =>
      if c.rc = 0 then h.bad
      else if c.rc = 1 then c.node.children.foldl (decref f) (h.put r none)
      else h.put r (some { c with rc := c.rc - 1 })

def H.fuel (h : H) : Nat := h.cells.length + 1

def H.decref (h : H) (r : Ref) : H := Heap.decref h.fuel h r

/-- one-block item (ints, floats, tags, indefinite arrays and maps) -/
def new1 (ω : Oracle) (h : H) (n : Node) : Option Ref × H :=
  let (ok, h) := h.req ω
  if ok then let (r, h) := h.new n; (some r, h) else (none, h)

/-- item header, then a second block (string payload, chunk bookkeeping); the header is released if the second is refused -/
def new2 (ω : Oracle) (h : H) (n : Node) : Option Ref × H :=
  let (ok, h) := h.req ω
  if !ok then (none, h) else
  let (ok2, h) := h.req ω
  if ok2 then let (r, h) := h.new n; (some r, h) else (none, h)

def mulOk (a b : Nat) : Bool := Gen._cbor_safe_to_multiply (UInt64.ofNat a) (UInt64.ofNat b)

/-- item header, then `_cbor_alloc_multiple(itemSize, count)`: the overflow guard refuses without asking the allocator -/
def newMulti (ω : Oracle) (h : H) (itemSize count : Nat) (n : Node) : Option Ref × H :=
  let (ok, h) := h.req ω
  if !ok then (none, h) else
  if !mulOk itemSize count then (none, h) else
  let (ok2, h) := h.req ω
  if ok2 then let (r, h) := h.new n; (some r, h) else (none, h)

/-- geometric growth of a slot array: the new capacity, or `none` when a guard or the allocator refuses -/
def grow (ω : Oracle) (h : H) (itemSize alloc : Nat) : Option Nat × H :=
  if !mulOk 2 alloc then (none, h) else
  let na := if alloc = 0 then 1 else 2 * alloc
  if !mulOk itemSize na then (none, h) else
  let (ok, h) := h.req ω
  if ok then (some na, h) else (none, h)

def arrPush (ω : Oracle) (h : H) (a x : Ref) : Bool × H :=
  match h.get a with
  | some ⟨.arr true items alloc, rc⟩ =>
    if items.length ≥ alloc then (false, h)
    else (true, (h.put a (some ⟨.arr true (items ++ [x]) alloc, rc⟩)).incref x)
  | some ⟨.arr false items alloc, rc⟩ =>
    if items.length ≥ alloc then
      match grow ω h 8 alloc with
      | (some na, h) => (true, (h.put a (some ⟨.arr false (items ++ [x]) na, rc⟩)).incref x)
      | (none, h) => (false, h)
    else (true, (h.put a (some ⟨.arr false (items ++ [x]) alloc, rc⟩)).incref x)
  | _ => (false, h.bad)

/-- `cbor_array_get`: a new reference to the member, or NULL beyond the end -/
def arrGet (h : H) (a : Ref) (i : Nat) : Option Ref × H :=
  match h.get a with
  | some ⟨.arr _ items _, _⟩ =>
    match items[i]? with
    | some x => (some x, h.incref x)
    | none => (none, h)
  | _ => (none, h.bad)

/-- `cbor_array_replace`.  The C code releases the old member first and then stores and increfs the new one; for a
client that owns a reference to `x` (the rule) the two orders are indistinguishable, and the model stores
first so that the books balance at every intermediate step. -/
def arrReplace (h : H) (a : Ref) (i : Nat) (x : Ref) : Bool × H :=
  match h.get a with
  | some ⟨.arr d items alloc, rc⟩ =>
    match items[i]? with
    | none => (false, h)
    | some old => (true, ((h.put a (some ⟨.arr d (items.set i x) alloc, rc⟩)).incref x).decref old)
  | _ => (false, h.bad)

def arrSet (ω : Oracle) (h : H) (a : Ref) (i : Nat) (x : Ref) : Bool × H :=
  match h.get a with
  | some ⟨.arr _ items _, _⟩ =>
    if i = items.length then arrPush ω h a x
    else if i < items.length then arrReplace h a i x
    else (false, h)
  | _ => (false, h.bad)

def mapAdd (ω : Oracle) (h : H) (m k v : Ref) : Bool × H :=
  match h.get m with
  | some ⟨.map true pairs alloc, rc⟩ =>
    if pairs.length ≥ alloc then (false, h)
    else (true, ((h.put m (some ⟨.map true (pairs ++ [(k, v)]) alloc, rc⟩)).incref k).incref v)
  | some ⟨.map false pairs alloc, rc⟩ =>
    if pairs.length ≥ alloc then
      match grow ω h 16 alloc with
      | (some na, h) => (true, ((h.put m (some ⟨.map false (pairs ++ [(k, v)]) na, rc⟩)).incref k).incref v)
      | (none, h) => (false, h)
    else (true, ((h.put m (some ⟨.map false (pairs ++ [(k, v)]) alloc, rc⟩)).incref k).incref v)
  | _ => (false, h.bad)

def addChunk (ω : Oracle) (h : H) (s c : Ref) : Bool × H :=
  match h.get s, h.get c with
  | some ⟨.strI t chunks cap, rc⟩, some ⟨.str t' _, _⟩ =>
    if t ≠ t' then (false, h.bad) else
    if chunks.length = cap then
      match grow ω h 8 cap with
      | (some na, h) => (true, (h.put s (some ⟨.strI t (chunks ++ [c]) na, rc⟩)).incref c)
      | (none, h) => (false, h)
    else (true, (h.put s (some ⟨.strI t (chunks ++ [c]) cap, rc⟩)).incref c)
  | _, _ => (false, h.bad)

/-- `cbor_tag_set_item`: takes a reference to the new item; as documented, the reference the tag held to a
previous item is *not* released — it is returned here, and becomes the caller's to release -/
def tagSet (h : H) (t x : Ref) : Option Ref × H :=
  match h.get t with
  | some ⟨.tag n old, rc⟩ => (old, (h.put t (some ⟨.tag n (some x), rc⟩)).incref x)
  | _ => (none, h.bad)

/-- `cbor_tag_item`: a new reference to the tagged item -/
def tagGet (h : H) (t : Ref) : Option Ref × H :=
  match h.get t with
  | some ⟨.tag _ (some x), _⟩ => (some x, h.incref x)
  | _ => (none, h.bad)

def buildTag (ω : Oracle) (h : H) (n : Nat) (x : Ref) : Option Ref × H :=
  match new1 ω h (.tag n none) with
  | (some t, h) => (some t, (tagSet h t x).2)
  | (none, h) => (none, h)

mutual
/-- `cbor_copy`, with its clean-up paths; every call, and every round of a member loop, passes one unit of `fuel` less on -/
def copy (ω : Oracle) : Nat → H → Ref → Option Ref × H
  | 0, h, _ => (none, h.bad)
  | f+1, h, r =>
    match h.get r with
    | none => (none, h.bad)
    | some c =>
      match c.node with
      | .str t b => new2 ω h (.str t b)
      | .strI t chunks _ =>
        match new2 ω h (.strI t [] 0) with
        | (none, h) => (none, h)
        | (some res, h) => copyChunks ω f h res chunks
      | .arr d items _ =>
        match (if d then newMulti ω h 8 items.length (.arr true [] items.length) else new1 ω h (.arr false [] 0)) with
        | (none, h) => (none, h)
        | (some res, h) => copyItems ω f h res items
      | .map d pairs _ =>
        match (if d then newMulti ω h 16 pairs.length (.map true [] pairs.length) else new1 ω h (.map false [] 0)) with
        | (none, h) => (none, h)
        | (some res, h) => copyPairs ω f h res pairs
      | .tag n (some x) =>
        match copy ω f h x with
        | (none, h) => (none, h)
        | (some xc, h) =>
          match buildTag ω h n xc with
          | (some t, h) => (some t, h.decref xc)
          | (none, h) => (none, h.decref xc)
      | .tag _ none => (none, h.bad)
      | n => new1 ω h n
def copyItems (ω : Oracle) : Nat → H → Ref → List Ref → Option Ref × H
  | 0, h, _, _ => (none, h.bad)
  | _+1, h, res, [] => (some res, h)
  | f+1, h, res, x :: xs =>
    match copy ω f h x with
    | (none, h) => (none, h.decref res)
    | (some e, h) =>
      match arrPush ω h res e with
      | (false, h) => (none, (h.decref e).decref res)
      | (true, h) => copyItems ω f (h.decref e) res xs
def copyChunks (ω : Oracle) : Nat → H → Ref → List Ref → Option Ref × H
  | 0, h, _, _ => (none, h.bad)
  | _+1, h, res, [] => (some res, h)
  | f+1, h, res, x :: xs =>
    match copy ω f h x with
    | (none, h) => (none, h.decref res)
    | (some e, h) =>
      match addChunk ω h res e with
      | (false, h) => (none, (h.decref e).decref res)
      | (true, h) => copyChunks ω f (h.decref e) res xs
def copyPairs (ω : Oracle) : Nat → H → Ref → List (Ref × Ref) → Option Ref × H
  | 0, h, _, _ => (none, h.bad)
  | _+1, h, res, [] => (some res, h)
  | f+1, h, res, (k, v) :: ps =>
    match copy ω f h k with
    | (none, h) => (none, h.decref res)
    | (some kc, h) =>
      match copy ω f h v with
      | (none, h) => (none, (h.decref res).decref kc)
      | (some vc, h) =>
        match mapAdd ω h res kc vc with
        | (false, h) => (none, ((h.decref res).decref kc).decref vc)
        | (true, h) => copyPairs ω f ((h.decref kc).decref vc) res ps
end

/-- enough fuel for any acyclic heap: the members of a cell plus two, summed over all cells (`Heap.need_le_copyFuel`) -/
def H.copyFuel (h : H) : Nat :=
  (h.cells.map fun c => match c with | some c => c.node.children.length + 2 | none => 1).sum + 2

def H.copy (ω : Oracle) (h : H) (r : Ref) : Option Ref × H := Heap.copy ω h.copyFuel h r

mutual
/-- the value an item denotes (the tree `print_item` prints and the serializer walks) -/
def val : Nat → H → Ref → Option Item
  | 0, _, _ => none
  | f+1, h, r =>
    match h.get r with
    | none => none
    | some c =>
      match c.node with
      | .int false w v => some (.uint w v)
      | .int true w v => some (.negint w v)
      | .str false b => some (.bytes b)
      | .str true b => some (.text b)
      | .strI t cs _ => (valChunks f h cs).map fun l => if t then .textI l else .bytesI l
      | .arr d xs _ => (valList f h xs).map fun l => if d then .array l else .arrayI l
      | .map d ps _ => (valPairs f h ps).map fun l => if d then .map l else .mapI l
      | .tag n (some x) => (val f h x).map fun y => .tag n y
      | .tag _ none => none
      | .ctrl v => some (.simple v)
      | .half x => some (.half x)
      | .single b => some (.single b)
      | .double b => some (.double b)
def valList : Nat → H → List Ref → Option (List Item)
  | 0, _, _ => none
  | _+1, _, [] => some []
  | f+1, h, x :: xs => do let a ← val f h x; let r ← valList f h xs; pure (a :: r)
def valPairs : Nat → H → List (Ref × Ref) → Option (List (Item × Item))
  | 0, _, _ => none
  | _+1, _, [] => some []
  | f+1, h, (k, v) :: ps => do let a ← val f h k; let b ← val f h v; let r ← valPairs f h ps; pure ((a, b) :: r)
def valChunks : Nat → H → List Ref → Option (List (List UInt8))
  | 0, _, _ => none
  | _+1, _, [] => some []
  | f+1, h, c :: cs =>
    match h.get c with
    | some ⟨.str _ b, _⟩ => (valChunks f h cs).map fun r => b :: r
    | _ => none
end

def H.val (h : H) (r : Ref) : Option Item := Heap.val h.copyFuel h r

/-- capacity after `n` pushes into an empty growing container (the growth rule applied `n` times):
0, 1, 2, 4, 4, 8, 8, 8, 8, 16, … — the least power of two ≥ n -/
def capFor : Nat → Nat
  | 0 => 0
  | k+1 =>
    let c := capFor k
    if c ≤ k then (if c = 0 then 1 else 2 * c) else c

mutual
/-- allocate the cells of a tree, every node with reference count 1 (what `cbor_load` hands out);
capacities of indefinite containers follow the geometric growth of successive pushes -/
def build : Item → H → Ref × H
  | .uint w v, h => h.new (.int false w v)
  | .negint w v, h => h.new (.int true w v)
  | .bytes b, h => h.new (.str false b)
  | .text b, h => h.new (.str true b)
  | .bytesI cs, h => let (rs, h) := buildChunks false cs h; h.new (.strI false rs (capFor rs.length))
  | .textI cs, h => let (rs, h) := buildChunks true cs h; h.new (.strI true rs (capFor rs.length))
  | .array xs, h => let (rs, h) := buildList xs h; h.new (.arr true rs rs.length)
  | .arrayI xs, h => let (rs, h) := buildList xs h; h.new (.arr false rs (capFor rs.length))
  | .map ps, h => let (rs, h) := buildPairs ps h; h.new (.map true rs rs.length)
  | .mapI ps, h => let (rs, h) := buildPairs ps h; h.new (.map false rs (capFor rs.length))
  | .tag n x, h => let (r, h) := build x h; h.new (.tag n (some r))
  | .simple v, h => h.new (.ctrl v)
  | .half f, h => h.new (.half f)
  | .single b, h => h.new (.single b)
  | .double b, h => h.new (.double b)
def buildList : List Item → H → List Ref × H
  | [], h => ([], h)
  | x :: xs, h => let (r, h) := build x h; let (rs, h) := buildList xs h; (r :: rs, h)
def buildPairs : List (Item × Item) → H → List (Ref × Ref) × H
  | [], h => ([], h)
  | (k, v) :: ps, h => let (a, h) := build k h; let (b, h) := build v h; let (rs, h) := buildPairs ps h; ((a, b) :: rs, h)
def buildChunks (t : Bool) : List (List UInt8) → H → List Ref × H
  | [], h => ([], h)
  | c :: cs, h => let (r, h) := h.new (.str t c); let (rs, h) := buildChunks t cs h; (r :: rs, h)
end

/-- `cbor_load` at heap level: the value-level model decides the outcome and the number of requests; on
success the tree is laid out with every reference count 1 -/
def H.load (ω : Oracle) (L : Nat) (h : H) (src : Array UInt8) : Option Ref × Model.LoadResult × H :=
  let o := Model.load (fun i _ => ω (h.reqs + i)) L { code := .none, position := 0, read := 0 } src
  let h := { h with reqs := h.reqs + o.reqs, fault := h.fault || o.fault }
  match o.item with
  | none => (none, o.result, h)
  | some x => let (r, h) := build x h; (some r, o.result, h)

end Heap
