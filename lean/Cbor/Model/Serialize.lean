import Cbor.Gen.Encoding
import Cbor.Gen.MemoryUtils
import Cbor.Gen.HeaderSize
import Cbor.Spec.Item
/-!
# Value-level model of `cbor_serialize`, `cbor_serialized_size`, `cbor_serialize_alloc`

Hand-written; mirrors `src/cbor/serialization.c` case by case.  Every head is written by the **generated**
`Gen.cbor_encode_*` function the C code calls, into an `Array UInt8` buffer at an offset, and sizes are
accumulated with the **generated** `Gen._cbor_safe_signaling_add` / `Gen._cbor_encoded_header_size`.
Tied to the C code by the correspondence harness (ops `SER`, `SERA`, `ROUND`).
-/
namespace Model
open Spec (Item Width)

/-- `memcpy(buffer + off, data, length)` -/
def copyInto (buf : Array UInt8) (off : Nat) : List UInt8 → Array UInt8
  | [] => buf
  | b :: bs => copyInto (buf.setIfInBounds off b) (off + 1) bs

/-- definite string: head, then payload if `buffer_size - written >= length` -/
def serString (isText : Bool) (data : List UInt8) (buf : Array UInt8) (off : Nat) (n : UInt64) : UInt64 × Array UInt8 :=
  let len := UInt64.ofNat data.length
  let r := if isText then Gen.cbor_encode_string_start len buf off n else Gen.cbor_encode_bytestring_start len buf off n
  if r.1 > 0 && n - r.1 ≥ len then (r.1 + len, copyInto r.2 (off + r.1.toNat) data)
  else (0, r.2)

/-- chunks of an indefinite string, each serialized as a definite string of the same type -/
def serChunks (isText : Bool) : List (List UInt8) → Array UInt8 → Nat → UInt64 → UInt64 → UInt64 × Array UInt8
  | [], buf, _, _, written => (written, buf)
  | c :: cs, buf, off, n, written =>
    let r := serString isText c buf (off + written.toNat) (n - written)
    if r.1 = 0 then (0, r.2) else serChunks isText cs r.2 off n (written + r.1)

def serIndefString (isText : Bool) (cs : List (List UInt8)) (buf : Array UInt8) (off : Nat) (n : UInt64) : UInt64 × Array UInt8 :=
  let r := if isText then Gen.cbor_encode_indef_string_start buf off n else Gen.cbor_encode_indef_bytestring_start buf off n
  if r.1 = 0 then (0, r.2) else
  let c := serChunks isText cs r.2 off n r.1
  if c.1 = 0 then (0, c.2) else
  let b := Gen.cbor_encode_break c.2 (off + c.1.toNat) (n - c.1)
  if b.1 = 0 then (0, b.2) else (c.1 + b.1, b.2)

mutual
/-- `cbor_serialize(item, buffer + off, n)`: bytes written (0 = does not fit) and the buffer afterwards -/
def serialize : Item → Array UInt8 → Nat → UInt64 → UInt64 × Array UInt8
  | .uint .w8 v, buf, off, n => Gen.cbor_encode_uint8 (UInt8.ofNat v) buf off n
  | .uint .w16 v, buf, off, n => Gen.cbor_encode_uint16 (UInt16.ofNat v) buf off n
  | .uint .w32 v, buf, off, n => Gen.cbor_encode_uint32 (UInt32.ofNat v) buf off n
  | .uint .w64 v, buf, off, n => Gen.cbor_encode_uint64 (UInt64.ofNat v) buf off n
  | .negint .w8 v, buf, off, n => Gen.cbor_encode_negint8 (UInt8.ofNat v) buf off n
  | .negint .w16 v, buf, off, n => Gen.cbor_encode_negint16 (UInt16.ofNat v) buf off n
  | .negint .w32 v, buf, off, n => Gen.cbor_encode_negint32 (UInt32.ofNat v) buf off n
  | .negint .w64 v, buf, off, n => Gen.cbor_encode_negint64 (UInt64.ofNat v) buf off n
  | .bytes b, buf, off, n => serString false b buf off n
  | .text b, buf, off, n => serString true b buf off n
  | .bytesI cs, buf, off, n => serIndefString false cs buf off n
  | .textI cs, buf, off, n => serIndefString true cs buf off n
  | .array xs, buf, off, n =>
    let r := Gen.cbor_encode_array_start (UInt64.ofNat xs.length) buf off n
    if r.1 = 0 then (0, r.2) else
    serList xs r.2 off n r.1
  | .arrayI xs, buf, off, n =>
    let r := Gen.cbor_encode_indef_array_start buf off n
    if r.1 = 0 then (0, r.2) else
    let c := serList xs r.2 off n r.1
    if c.1 = 0 then (0, c.2) else
    let b := Gen.cbor_encode_break c.2 (off + c.1.toNat) (n - c.1)
    if b.1 = 0 then (0, b.2) else (c.1 + b.1, b.2)
  | .map kvs, buf, off, n =>
    let r := Gen.cbor_encode_map_start (UInt64.ofNat kvs.length) buf off n
    if r.1 = 0 then (0, r.2) else
    serPairs kvs r.2 off n r.1
  | .mapI kvs, buf, off, n =>
    let r := Gen.cbor_encode_indef_map_start buf off n
    if r.1 = 0 then (0, r.2) else
    let c := serPairs kvs r.2 off n r.1
    if c.1 = 0 then (0, c.2) else
    let b := Gen.cbor_encode_break c.2 (off + c.1.toNat) (n - c.1)
    if b.1 = 0 then (0, b.2) else (c.1 + b.1, b.2)
  | .tag t x, buf, off, n =>
    let r := Gen.cbor_encode_tag (UInt64.ofNat t) buf off n
    if r.1 = 0 then (0, r.2) else
    let i := serialize x r.2 (off + r.1.toNat) (n - r.1)
    if i.1 = 0 then (0, i.2) else (r.1 + i.1, i.2)
  | .simple v, buf, off, n => Gen.cbor_encode_ctrl (UInt8.ofNat v) buf off n
  | .half f, buf, off, n => Gen.cbor_encode_half (UInt32.ofNat f) buf off n
  | .single b, buf, off, n => Gen.cbor_encode_single (UInt32.ofNat b) buf off n
  | .double b, buf, off, n => Gen.cbor_encode_double (UInt64.ofNat b) buf off n
/-- members in order, starting after `written` bytes; total written, or 0 as soon as one does not fit -/
def serList : List Item → Array UInt8 → Nat → UInt64 → UInt64 → UInt64 × Array UInt8
  | [], buf, _, _, written => (written, buf)
  | x :: xs, buf, off, n, written =>
    let r := serialize x buf (off + written.toNat) (n - written)
    if r.1 = 0 then (0, r.2) else serList xs r.2 off n (written + r.1)
def serPairs : List (Item × Item) → Array UInt8 → Nat → UInt64 → UInt64 → UInt64 × Array UInt8
  | [], buf, _, _, written => (written, buf)
  | (k, v) :: r, buf, off, n, written =>
    let a := serialize k buf (off + written.toNat) (n - written)
    if a.1 = 0 then (0, a.2) else
    let written := written + a.1
    let b := serialize v a.2 (off + written.toNat) (n - written)
    if b.1 = 0 then (0, b.2) else serPairs r b.2 off n (written + b.1)
end

def sizeString (len : Nat) : UInt64 :=
  let h := Gen._cbor_encoded_header_size (UInt64.ofNat len)
  if len = 0 then h else Gen._cbor_safe_signaling_add h (UInt64.ofNat len)

def sizeChunks : List (List UInt8) → UInt64 → UInt64
  | [], acc => acc
  | c :: cs, acc => sizeChunks cs (Gen._cbor_safe_signaling_add acc (sizeString c.length))

mutual
/-- `cbor_serialized_size(item)`: the exact size, or 0 when it does not fit in `size_t` -/
def size : Item → UInt64
  | .uint w v => match w with | .w8 => (if v ≤ 23 then 1 else 2) | .w16 => 3 | .w32 => 5 | .w64 => 9
  | .negint w v => match w with | .w8 => (if v ≤ 23 then 1 else 2) | .w16 => 3 | .w32 => 5 | .w64 => 9
  | .bytes b => sizeString b.length
  | .text b => sizeString b.length
  | .bytesI cs => sizeChunks cs 2
  | .textI cs => sizeChunks cs 2
  | .array xs => sizeList xs (Gen._cbor_encoded_header_size (UInt64.ofNat xs.length))
  | .arrayI xs => sizeList xs 2
  | .map kvs => sizePairs kvs (Gen._cbor_encoded_header_size (UInt64.ofNat kvs.length))
  | .mapI kvs => sizePairs kvs 2
  | .tag t x => Gen._cbor_safe_signaling_add (Gen._cbor_encoded_header_size (UInt64.ofNat t)) (size x)
  | .simple v => Gen._cbor_encoded_header_size (UInt64.ofNat (v % 256))
  | .half _ => 3
  | .single _ => 5
  | .double _ => 9
def sizeList : List Item → UInt64 → UInt64
  | [], acc => acc
  | x :: xs, acc => sizeList xs (Gen._cbor_safe_signaling_add acc (size x))
def sizePairs : List (Item × Item) → UInt64 → UInt64
  | [], acc => acc
  | (k, v) :: r, acc => sizePairs r (Gen._cbor_safe_signaling_add acc (Gen._cbor_safe_signaling_add (size k) (size v)))
end

/-- what `cbor_serialized_size` looks at: the shape of the tree and the *recorded lengths* of its strings (never their bytes) -/
inductive Skel
  | leaf (sz : UInt64)                       -- integers, floats, simple values: 1, 2, 3, 5 or 9 bytes
  | str (len : Nat)
  | strI (lens : List Nat)
  | arr (definite : Bool) (xs : List Skel)
  | map (definite : Bool) (ps : List (Skel × Skel))
  | tag (n : Nat) (x : Skel)

mutual
/-- `cbor_serialized_size` over a skeleton; lengths may be anything a `size_t` field can record -/
def sizeS : Skel → UInt64
  | .leaf sz => sz
  | .str len => sizeString len
  | .strI lens => lens.foldl (fun acc l => Gen._cbor_safe_signaling_add acc (sizeString l)) 2
  | .arr d xs => sizeSList xs (if d then Gen._cbor_encoded_header_size (UInt64.ofNat xs.length) else 2)
  | .map d ps => sizeSPairs ps (if d then Gen._cbor_encoded_header_size (UInt64.ofNat ps.length) else 2)
  | .tag t x => Gen._cbor_safe_signaling_add (Gen._cbor_encoded_header_size (UInt64.ofNat t)) (sizeS x)
def sizeSList : List Skel → UInt64 → UInt64
  | [], acc => acc
  | x :: xs, acc => sizeSList xs (Gen._cbor_safe_signaling_add acc (sizeS x))
def sizeSPairs : List (Skel × Skel) → UInt64 → UInt64
  | [], acc => acc
  | (k, v) :: r, acc => sizeSPairs r (Gen._cbor_safe_signaling_add acc (Gen._cbor_safe_signaling_add (sizeS k) (sizeS v)))
end

mutual
/-- the skeleton of an item -/
def skel : Item → Skel
  | .bytes b => .str b.length
  | .text b => .str b.length
  | .bytesI cs => .strI (cs.map List.length)
  | .textI cs => .strI (cs.map List.length)
  | .array xs => .arr true (skelList xs)
  | .arrayI xs => .arr false (skelList xs)
  | .map kvs => .map true (skelPairs kvs)
  | .mapI kvs => .map false (skelPairs kvs)
  | .tag t x => .tag t (skel x)
  | x => .leaf (size x)
def skelList : List Item → List Skel
  | [] => []
  | x :: xs => skel x :: skelList xs
def skelPairs : List (Item × Item) → List (Skel × Skel)
  | [] => []
  | (k, v) :: r => (skel k, skel v) :: skelPairs r
end

/-- `cbor_serialize_alloc`: `okAlloc k` = does `malloc(k)` succeed.  `none` = returned 0 with `*buffer == NULL`;
`some (written, block)` = the value returned and the block handed to the caller (fresh memory modelled as zeros). -/
def serializeAlloc (okAlloc : Nat → Bool) (t : Item) : Option (UInt64 × Array UInt8) :=
  let s := size t
  if s = 0 then none
  else if !okAlloc s.toNat then none
  else some (serialize t (Array.replicate s.toNat 0) 0 s)

end Model
