import Cbor.Model.Heap
/-!
# A client of the item API: slots holding references, and the operations of a history

A *slot* holds one reference the client owns (or nothing).  `step` applies one API call.  Property C04 is a
statement about all sequences of `Op`s, and C17 about all interleavings of such sequences (`Lemmas/Threads.lean`).
-/
namespace Heap

inductive Op
  | newInt (s : Nat) (neg : Bool) (w : Spec.Width) (v : Nat)
  | newStr (s : Nat) (text : Bool) (b : List UInt8)
  | newStrI (s : Nat) (text : Bool)
  | newArr (s : Nat) (definite : Bool) (cap : Nat)
  | newMap (s : Nat) (definite : Bool) (cap : Nat)
  | newTag (s : Nat) (n : Nat)
  | buildTag (s : Nat) (n : Nat) (x : Nat)
  | newCtrl (s : Nat) (v : Nat)
  | newHalf (s : Nat) (f : Nat)
  | newSingle (s : Nat) (b : Nat)
  | newDouble (s : Nat) (b : Nat)
  | push (a x : Nat)
  | pushMove (a x : Nat)          -- cbor_array_push(a, cbor_move(x)): the client's reference goes to the array
  | set (a i x : Nat)
  | replace (a i x : Nat)
  | get (s a i : Nat)
  | mapAdd (m k v : Nat)
  | chunk (s c : Nat)
  | tagSet (t x s : Nat)          -- the reference to a previously tagged item passes to slot s
  | tagGet (s t : Nat)
  | copy (s x : Nat)
  | incref (s x : Nat)            -- s := cbor_incref(x)
  | decref (s : Nat)
  | load (s : Nat) (bytes : List UInt8)
deriving Repr, Inhabited

inductive Res
  | unit | ok | refused | null | item (r : Ref) | loaded (r : Option Ref) (res : Model.LoadResult)
deriving Repr, Inhabited

structure St where
  h : H := {}
  slots : List (Option Ref) := List.replicate 16 none
deriving Repr, Inhabited

def St.slot (st : St) (s : Nat) : Option Ref := (st.slots[s]?).join
def St.setSlot (st : St) (s : Nat) (r : Option Ref) : St := { st with slots := st.slots.set s r }
def St.bad (st : St) : St := { st with h := st.h.bad }

/-- store a freshly obtained reference (or nothing) in an empty slot -/
def St.fresh (st : St) (s : Nat) (r : Option Ref × H) : St × Res :=
  if st.slots.length ≤ s then ({ st with h := r.2.bad }, .null) else
  match st.slot s, r with
  | some _, (_, h) => ({ st with h := h.bad }, .null)
  | none, (some x, h) => ({ st with h := h }.setSlot s (some x), .item x)
  | none, (none, h) => ({ st with h := h }, .null)

def boolRes (r : Bool × H) (st : St) : St × Res := ({ st with h := r.2 }, if r.1 then .ok else .refused)

def step (ω : Oracle) (L : Nat) (st : St) : Op → St × Res
  | .newInt s neg w v => st.fresh s (new1 ω st.h (.int neg w v))
  | .newStr s t b => st.fresh s (new2 ω st.h (.str t b))
  | .newStrI s t => st.fresh s (new2 ω st.h (.strI t [] 0))
  | .newArr s d cap => st.fresh s (if d then newMulti ω st.h 8 cap (.arr true [] cap) else new1 ω st.h (.arr false [] 0))
  | .newMap s d cap => st.fresh s (if d then newMulti ω st.h 16 cap (.map true [] cap) else new1 ω st.h (.map false [] 0))
  | .newTag s n => st.fresh s (new1 ω st.h (.tag n none))
  | .buildTag s n x =>
    match st.slot x with
    | some rx => st.fresh s (buildTag ω st.h n rx)
    | none => (st.bad, .null)
  | .newCtrl s v => st.fresh s (new1 ω st.h (.ctrl v))
  | .newHalf s f => st.fresh s (new1 ω st.h (.half f))
  | .newSingle s b => st.fresh s (new1 ω st.h (.single b))
  | .newDouble s b => st.fresh s (new1 ω st.h (.double b))
  | .push a x =>
    match st.slot a, st.slot x with
    | some ra, some rx => boolRes (arrPush ω st.h ra rx) st
    | _, _ => (st.bad, .refused)
  | .pushMove a x =>
    match st.slot a, st.slot x with
    | some ra, some rx =>
      -- cbor_array_push(a, cbor_move(x)): the count drops by one without releasing and the push takes it back up; when the
      -- push is refused the client takes its reference back (cbor_incref).  Modelled as push-then-give-up, which passes
      -- through the same final states without an intermediate zero count.
      match arrPush ω st.h ra rx with
      | (true, h) =>
        match h.get rx with
        | some c => ({ st with h := h.put rx (some { c with rc := c.rc - 1 }) }.setSlot x none, .ok)
        | none => ({ st with h := h.bad }, .refused)
      | (false, h) => ({ st with h := h }, .refused)
    | _, _ => (st.bad, .refused)
  | .set a i x =>
    match st.slot a, st.slot x with
    | some ra, some rx => boolRes (arrSet ω st.h ra i rx) st
    | _, _ => (st.bad, .refused)
  | .replace a i x =>
    match st.slot a, st.slot x with
    | some ra, some rx => boolRes (arrReplace st.h ra i rx) st
    | _, _ => (st.bad, .refused)
  | .get s a i =>
    match st.slot a with
    | some ra => st.fresh s (arrGet st.h ra i)
    | none => (st.bad, .null)
  | .mapAdd m k v =>
    match st.slot m, st.slot k, st.slot v with
    | some rm, some rk, some rv => boolRes (mapAdd ω st.h rm rk rv) st
    | _, _, _ => (st.bad, .refused)
  | .chunk s c =>
    match st.slot s, st.slot c with
    | some rs, some rc => boolRes (addChunk ω st.h rs rc) st
    | _, _ => (st.bad, .refused)
  | .tagSet t x s =>
    match st.slot t, st.slot x with
    | some rt, some rx =>
      match tagSet st.h rt rx with
      | (none, h) => ({ st with h := h }, .unit)
      | (some old, h) =>
        if st.slots.length ≤ s then ({ st with h := h.bad }, .unit) else
        match st.slot s with
        | none => ({ st with h := h }.setSlot s (some old), .unit)
        | some _ => ({ st with h := h.bad }, .unit)
    | _, _ => (st.bad, .unit)
  | .tagGet s t =>
    match st.slot t with
    | some rt => st.fresh s (tagGet st.h rt)
    | none => (st.bad, .null)
  | .copy s x =>
    match st.slot x with
    | some rx => st.fresh s (st.h.copy ω rx)
    | none => (st.bad, .null)
  | .incref s x =>
    match st.slot x with
    | some rx => st.fresh s (some rx, st.h.incref rx)
    | none => (st.bad, .null)
  | .decref s =>
    match st.slot s with
    | some r => ({ st with h := st.h.decref r }.setSlot s none, .unit)
    | none => (st.bad, .unit)
  | .load s bytes =>
    let (r, res, h) := st.h.load ω L bytes.toArray
    let (st, _) := st.fresh s (r, h)
    (st, .loaded r res)

def run (ω : Oracle) (L : Nat) (st : St) (ops : List Op) : St := ops.foldl (fun st op => (step ω L st op).1) st

end Heap
