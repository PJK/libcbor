import Cbor.Model.Heap
/-!
# Heap-level model of the incremental tree builder and of `cbor_load`

Hand-written; mirrors `src/cbor/internal/builder_callbacks.c`, `src/cbor/internal/stack.c` and the `cbor_load`
loop of `src/cbor.c` branch by branch **on the heap `Heap.H`**, in the control-flow shape of the value-level model
`Model/Builder.lean`: items are heap cells with reference counts, every allocator request goes through
`Heap.H.req` / `new1` / `new2` / `newMulti` / `grow` (same order and number as in `Model/Builder.lean`), every
`cbor_decref` of the C code is a `Heap.H.decref`, and every error exit of `cbor_load` runs its clean-up loop.

One representation choice: in C `_cbor_map_add_key` stores the key in the next pair slot with a NULL value and takes
a reference, and the builder then drops its own; `Heap.Node.map` has no half-filled pairs, so the frame keeps that
one reference (`Frame.key`) until the value arrives, when the pair is appended with `Heap.mapAdd` (which takes a
reference to both) and the builder's references to value and key are dropped.  `cbor_decref` of a map with a
half-filled last pair releases that key as well; so the clean-up loop releases the frame's item and a pending key.
-/
namespace HB
open Heap (H Ref Node Cell Oracle)

/-- `struct _cbor_stack_record`, plus the pending key of a map whose value has not arrived yet -/
structure Frame where
  item : Ref
  subitems : UInt64
  key : Option Ref := none
deriving Repr, Inhabited

/-- `struct _cbor_decoder_context` (with its stack), and the heap -/
structure Ctx where
  h : H
  stack : List Frame := []          -- top first
  root : Option Ref := none
  creationFailed : Bool := false
  syntaxError : Bool := false
deriving Repr, Inhabited

/-- `cbor_array_push(parent, item)` followed by `cbor_decref(&item)` (also when the push is refused) -/
def pushDec (ω : Oracle) (h : H) (a x : Ref) : Bool × H :=
  let (ok, h) := Heap.arrPush ω h a x
  (ok, h.decref x)

/-- `cbor_bytestring_add_chunk` / `cbor_string_add_chunk` followed by `cbor_decref(&chunk)` -/
def chunkDec (ω : Oracle) (h : H) (s c : Ref) : Bool × H :=
  let (ok, h) := Heap.addChunk ω h s c
  (ok, h.decref c)

/-- the capacity part of `_cbor_map_add_key`: a full definite map refuses, a full indefinite map grows
(overflow guards, then one request); only the capacity of the map cell changes -/
def mapKey (ω : Oracle) (h : H) (m : Ref) : Bool × H :=
  match h.get m with
  | some ⟨.map true pairs alloc, _⟩ => if pairs.length ≥ alloc then (false, h) else (true, h)
  | some ⟨.map false pairs alloc, rc⟩ =>
    if pairs.length ≥ alloc then
      match Heap.grow ω h 16 alloc with
      | (some na, h) => (true, h.put m (some ⟨.map false pairs na, rc⟩))
      | (none, h) => (false, h)
    else (true, h)
  | _ => (false, h.bad)

/-- `_cbor_map_add_key(map, key)` followed by `cbor_decref(&key)`: on success the map's reference to the key
(kept in the frame) replaces the builder's; on refusal the key is released -/
def keyDec (ω : Oracle) (h : H) (m k : Ref) : Bool × H :=
  let (ok, h) := mapKey ω h m
  if ok then (true, (h.incref k).decref k) else (false, h.decref k)

/-- `_cbor_map_add_value(map, value)` followed by `cbor_decref(&value)`; the pair is completed, the reference the
frame held to the key is now the pair's -/
def valDec (ω : Oracle) (h : H) (m k v : Ref) : Bool × H :=
  let (ok, h) := Heap.mapAdd ω h m k v
  (ok, (h.decref v).decref k)

/-- `_cbor_builder_append`: deliver a finished item to the item on top of the stack.  `fuel` bounds the
cascade of completed definite containers (at most the stack height). -/
def append (ω : Oracle) : Nat → Ref → Ctx → Ctx
  | 0, _, c => { c with h := c.h.bad }
  | fuel+1, item, c =>
    match c.stack with
    | [] => { c with root := some item }
    | top :: rest =>
      match c.h.get top.item with
      | some ⟨.arr true _ _, _⟩ =>
        if top.subitems = 0 then { c with h := c.h.bad } else        -- CBOR_ASSERT(subitems > 0)
        match pushDec ω c.h top.item item with
        | (false, h) => { c with h := h, creationFailed := true }
        | (true, h) =>
          let sub := top.subitems - 1
          if sub = 0 then append ω fuel top.item { c with h := h, stack := rest }
          else { c with h := h, stack := { top with subitems := sub } :: rest }
      | some ⟨.arr false _ _, _⟩ =>
        match pushDec ω c.h top.item item with
        | (false, h) => { c with h := h, creationFailed := true }
        | (true, h) => { c with h := h }
      | some ⟨.map definite _ _, _⟩ =>
        if top.subitems % 2 = 1 then
          -- odd: this is a value
          match top.key with
          | none => { c with h := c.h.bad }
          | some k =>
            match valDec ω c.h top.item k item with
            | (false, h) => { c with h := h.bad }                    -- CBOR_ASSERT(!ctx->creation_failed)
            | (true, h) =>
              if definite then
                if top.subitems = 0 then { c with h := h.bad } else  -- CBOR_ASSERT(subitems > 0)
                let sub := top.subitems - 1
                if sub = 0 then append ω fuel top.item { c with h := h, stack := rest }
                else { c with h := h, stack := { top with subitems := sub, key := none } :: rest }
              else { c with h := h, stack := { top with subitems := top.subitems ^^^ 1, key := none } :: rest }
        else
          match keyDec ω c.h top.item item with
          | (false, h) => { c with h := h, creationFailed := true }
          | (true, h) =>
            if definite then
              if top.subitems = 0 then { c with h := h.bad } else    -- CBOR_ASSERT(subitems > 0)
              let sub := top.subitems - 1
              if sub = 0 then append ω fuel top.item { c with h := h, stack := rest }
              else { c with h := h, stack := { top with subitems := sub, key := some item } :: rest }
            else { c with h := h, stack := { top with subitems := top.subitems ^^^ 1, key := some item } :: rest }
      | some ⟨.tag _ _, _⟩ =>
        if top.subitems ≠ 1 then { c with h := c.h.bad } else        -- CBOR_ASSERT(subitems == 1)
        let h := ((Heap.tagSet c.h top.item item).2).decref item
        append ω fuel top.item { c with h := h, stack := rest }
      | some _ => { c with h := c.h.decref item, syntaxError := true }
      | none => { c with h := c.h.bad }

/-- `PUSH_CTX_STACK` with `_cbor_stack_push` (limit `L`, then one request for the record); on failure the new
item is released -/
def pushFrame (ω : Oracle) (L : Nat) (c : Ctx) (it : Ref) (sub : UInt64) : Ctx :=
  if c.stack.length = L then { c with h := c.h.decref it, creationFailed := true }
  else
    let (ok, h) := c.h.req ω
    if ok then { c with h := h, stack := { item := it, subitems := sub } :: c.stack }
    else { c with h := h.decref it, creationFailed := true }

def fuelOf (c : Ctx) : Nat := c.stack.length + 1

/-- integers, floats, simple values: one request for the item, then append -/
def scalar (ω : Oracle) (c : Ctx) (n : Node) : Ctx :=
  match Heap.new1 ω c.h n with
  | (some r, h) => let c := { c with h := h }; append ω (fuelOf c) r c
  | (none, h) => { c with h := h, creationFailed := true }

/-- definite (byte / text) string callback: copy buffer, item, then chunk-or-append -/
def stringCb (ω : Oracle) (c : Ctx) (isText : Bool) (data : List UInt8) : Ctx :=
  let (ok1, h) := c.h.req ω                                          -- _cbor_malloc(length)
  if !ok1 then { c with h := h, creationFailed := true } else
  let (ok2, h) := h.req ω                                            -- cbor_new_definite_(byte)string()
  if !ok2 then { c with h := h, creationFailed := true } else        -- _cbor_free(new_handle): no cell yet
  let (r, h) := h.new (.str isText data)
  let c := { c with h := h }
  match c.stack with
  | top :: _ =>
    match h.get top.item with
    | some ⟨.strI t _ _, _⟩ =>
      if t = isText then
        match chunkDec ω h top.item r with
        | (true, h) => { c with h := h }
        | (false, h) => { c with h := h, creationFailed := true }
      else append ω (fuelOf c) r c
    | _ => append ω (fuelOf c) r c
  | [] => append ω (fuelOf c) r c

/-- indefinite string start: item, then its chunk-table struct, then push -/
def indefString (ω : Oracle) (L : Nat) (c : Ctx) (isText : Bool) : Ctx :=
  match Heap.new2 ω c.h (.strI isText [] 0) with
  | (some r, h) => pushFrame ω L { c with h := h } r 0
  | (none, h) => { c with h := h, creationFailed := true }

def arrayStart (ω : Oracle) (L : Nat) (c : Ctx) (n : UInt64) : Ctx :=
  match Heap.newMulti ω c.h 8 n.toNat (.arr true [] n.toNat) with
  | (some r, h) =>
    let c := { c with h := h }
    if n > 0 then pushFrame ω L c r n else append ω (fuelOf c) r c
  | (none, h) => { c with h := h, creationFailed := true }

def mapStart (ω : Oracle) (L : Nat) (c : Ctx) (n : UInt64) : Ctx :=
  match Heap.newMulti ω c.h 16 n.toNat (.map true [] n.toNat) with
  | (some r, h) =>
    let c := { c with h := h }
    if n > 0 then pushFrame ω L c r (n * 2) else append ω (fuelOf c) r c
  | (none, h) => { c with h := h, creationFailed := true }

/-- indefinite array / map start (one block), then push with `subitems = 0` -/
def indefContainer (ω : Oracle) (L : Nat) (c : Ctx) (n : Node) : Ctx :=
  match Heap.new1 ω c.h n with
  | (some r, h) => pushFrame ω L { c with h := h } r 0
  | (none, h) => { c with h := h, creationFailed := true }

def tagCb (ω : Oracle) (L : Nat) (c : Ctx) (v : UInt64) : Ctx :=
  match Heap.new1 ω c.h (.tag v.toNat none) with
  | (some r, h) => pushFrame ω L { c with h := h } r 1
  | (none, h) => { c with h := h, creationFailed := true }

/-- `_cbor_is_indefinite` -/
def isIndefinite (h : H) (r : Ref) : Bool :=
  match h.get r with
  | some ⟨.strI _ _ _, _⟩ => true
  | some ⟨.arr d _ _, _⟩ => !d
  | some ⟨.map d _ _, _⟩ => !d
  | _ => false

def isMap (h : H) (r : Ref) : Bool :=
  match h.get r with
  | some ⟨.map _ _ _, _⟩ => true
  | _ => false

/-- `cbor_builder_indef_break_callback` -/
def breakCb (ω : Oracle) (c : Ctx) : Ctx :=
  match c.stack with
  | top :: rest =>
    if isIndefinite c.h top.item && (!isMap c.h top.item || top.subitems % 2 = 0) then
      append ω (fuelOf c) top.item { c with stack := rest }
    else { c with syntaxError := true }
  | [] => { c with syntaxError := true }

/-- dispatch one callback invocation of the streaming decoder to the builder -/
def callback (ω : Oracle) (L : Nat) (src : Array UInt8) (c : Ctx) : Gen.Event → Ctx
  | .uint8 v => scalar ω c (.int false .w8 v.toNat)
  | .uint16 v => scalar ω c (.int false .w16 v.toNat)
  | .uint32 v => scalar ω c (.int false .w32 v.toNat)
  | .uint64 v => scalar ω c (.int false .w64 v.toNat)
  | .negint8 v => scalar ω c (.int true .w8 v.toNat)
  | .negint16 v => scalar ω c (.int true .w16 v.toNat)
  | .negint32 v => scalar ω c (.int true .w32 v.toNat)
  | .negint64 v => scalar ω c (.int true .w64 v.toNat)
  | .byte_string off len =>
    if off + len.toNat ≤ src.size then stringCb ω c false (Model.bytesOf src off len.toNat) else { c with h := c.h.bad }
  | .byte_string_start => indefString ω L c false
  | .string off len =>
    if off + len.toNat ≤ src.size then stringCb ω c true (Model.bytesOf src off len.toNat) else { c with h := c.h.bad }
  | .string_start => indefString ω L c true
  | .array_start n => arrayStart ω L c n
  | .indef_array_start => indefContainer ω L c (.arr false [] 0)
  | .map_start n => mapStart ω L c n
  | .indef_map_start => indefContainer ω L c (.map false [] 0)
  | .tag v => tagCb ω L c v
  | .float2 f => scalar ω c (.half f.toNat)
  | .float4 f => scalar ω c (.single f.toNat)
  | .float8 f => scalar ω c (.double f.toNat)
  | .undefined => scalar ω c (.ctrl 23)
  | .null => scalar ω c (.ctrl 22)
  | .boolean b => scalar ω c (.ctrl (if b then 21 else 20))
  | .indef_break => breakCb ω c

/-- the clean-up loop of `cbor_load`: `while (stack.size > 0) { cbor_decref(&stack.top->item); _cbor_stack_pop(&stack); }`
(the release of a map with a half-filled last pair releases that pair's key) -/
def cleanup (h : H) : List Frame → H
  | [] => h
  | f :: fs =>
    let h := h.decref f.item
    cleanup (match f.key with | some k => h.decref k | none => h) fs

/-- the `do { … } while (stack.size > 0)` loop of `cbor_load` with its `error:` exit; `fuel` ≥ remaining bytes + 1 -/
def loadLoop (ω : Oracle) (L : Nat) (src : Array UInt8) : Nat → Ctx → Nat → Option Ref × Model.LoadResult × H
  | 0, c, read => (none, { code := .notEnough, position := read, read := read }, (cleanup c.h c.stack).bad)
  | fuel+1, c, read =>
    if src.size > read then
      let d := Gen.cbor_stream_decode src read (UInt64.ofNat (src.size - read))
      let c := d.2.foldl (callback ω L src) c
      if d.1.status = Gen.CBOR_DECODER_FINISHED then
        let read := read + d.1.read.toNat
        if c.creationFailed then (none, { code := .mem, position := read, read := read }, cleanup c.h c.stack)
        else if c.syntaxError then (none, { code := .syntax, position := read, read := read }, cleanup c.h c.stack)
        else if c.stack.length > 0 then loadLoop ω L src fuel c read
        else
          match c.root with
          | some r => (some r, { code := .none, position := 0, read := read }, c.h)
          | none => (none, { code := .none, position := 0, read := read }, c.h.bad)
      else if d.1.status = Gen.CBOR_DECODER_NEDATA then
        (none, { code := .notEnough, position := read, read := read }, cleanup c.h c.stack)
      else
        (none, { code := .malformed, position := read, read := read }, cleanup c.h c.stack)
    else
      (none, { code := .notEnough, position := read, read := read }, cleanup c.h c.stack)

/-- `cbor_load(source, source_size, &result)` on the heap `h` -/
def load (ω : Oracle) (L : Nat) (h : H) (src : Array UInt8) : Option Ref × Model.LoadResult × H :=
  if src.size = 0 then (none, { code := .noData, position := 0, read := 0 }, h)
  else loadLoop ω L src (src.size + 1) { h := h } 0

/-! ### sanity checks (kernel-evaluated)

`sanity src L k`: with request number `k` refused (all others granted) the heap builder reports what the value-level
model reports, makes as many requests, raises no fault, and either hands out cells that all have count 1 or leaves no
live cell behind. -/
def sanity (src : Array UInt8) (L k : Nat) : Bool :=
  let ω : Heap.Oracle := fun i => i != k
  let o := Model.load (fun i _ => ω i) L { code := .none, position := 0, read := 0 } src
  let r := load ω L {} src
  decide (r.2.1 = o.result) && r.2.2.reqs == o.reqs && !r.2.2.fault && !o.fault &&
    (match o.item, r.1 with
     | some _, some _ => r.2.2.cells.all (fun c => match c with | some c => c.rc == 1 | none => false)
     | none, none => r.2.2.liveCells == 0
     | _, _ => false)

-- `[1, [_ 2]]`: 8 requests; refusing any one of them, or none
example : (List.range 10).all (sanity #[0x82, 0x01, 0x9f, 0x02, 0xff] 100) = true := by decide
-- `{_ 1: 2, 3: 1(4), 5: 6}`: indefinite map with growth, a tag
example : (List.range 15).all (sanity #[0xbf, 0x01, 0x02, 0x03, 0xc1, 0x04, 0x05, 0x06, 0xff] 100) = true := by decide
-- `(_ h'01', h'0203', h'')`: chunks, growth of the chunk table
example : (List.range 14).all (sanity #[0x5f, 0x41, 0x01, 0x42, 0x02, 0x03, 0x40, 0xff] 100) = true := by decide
-- malformed head while a map key is pending and an array is open: the clean-up loop releases the key too
example : (List.range 8).all (sanity #[0xbf, 0x01, 0x82, 0x02, 0x1c] 100) = true := by decide
-- nesting limit 2 reached
example : (List.range 9).all (sanity #[0x81, 0x81, 0x81, 0x01] 2) = true := by decide

end HB
