import Cbor.Gen.Streaming
import Cbor.Gen.MemoryUtils
import Cbor.Gen.Unicode
import Cbor.Spec.Item
/-!
# Value-level model of the tree builder and of `cbor_load`

Hand-written; mirrors `src/cbor/internal/builder_callbacks.c`, `src/cbor/internal/stack.c` and the
`cbor_load` loop of `src/cbor.c` branch by branch, with items as *values* (`Spec.Item`) instead of heap
cells.  Every allocation request of the C code is mirrored as a request to an allocator oracle, in the same
order and with the same size, so that refusal paths exist in the model; releases are no-ops at this level
(the heap-level model accounts for them).  Each head is decoded by the **generated**
`Gen.cbor_stream_decode`.  Tied to the C code by the correspondence harness (op `LOAD`).
-/
namespace Model
open Spec (Item Width)

/-- sizes used in allocation requests (LP64) -/
def szItem : Nat := 48
def szPtr : Nat := 8
def szPair : Nat := 16
def szIndefStr : Nat := 24
def szStackRec : Nat := 24
def growth : Nat := 2

/-- an item under construction on the decoding stack -/
inductive PItem
  | arrD (alloc : Nat) (xs : List Item)
  | arrI (alloc : Nat) (xs : List Item)
  | mapD (alloc : Nat) (kvs : List (Item × Item)) (key : Option Item)
  | mapI (alloc : Nat) (kvs : List (Item × Item)) (key : Option Item)
  | tag (n : Nat) (x : Option Item)
  | bstrI (cap : Nat) (cs : List (List UInt8))
  | tstrI (cap : Nat) (cs : List (List UInt8))
deriving Repr, Inhabited

def PItem.finish : PItem → Item
  | .arrD _ xs => .array xs
  | .arrI _ xs => .arrayI xs
  | .mapD _ kvs _ => .map kvs
  | .mapI _ kvs _ => .mapI kvs
  | .tag n x => .tag n (x.getD (.simple 0))
  | .bstrI _ cs => .bytesI cs
  | .tstrI _ cs => .textI cs

structure Frame where
  item : PItem
  subitems : UInt64
deriving Repr, Inhabited

/-- allocator oracle: is request number `i` for `n` bytes granted? -/
abbrev Oracle := Nat → Nat → Bool

structure Ctx where
  stack : List Frame := []          -- top first
  root : Option Item := none
  creationFailed : Bool := false
  syntaxError : Bool := false
  reqs : Nat := 0                   -- allocator requests made so far
  fault : Bool := false             -- an internal assertion / impossible state was hit (never, by C01)
deriving Repr, Inhabited

/-- one request to the allocator -/
def Ctx.alloc (c : Ctx) (ω : Oracle) (bytes : Nat) : Bool × Ctx :=
  (ω c.reqs bytes, { c with reqs := c.reqs + 1 })

/-- `_cbor_alloc_multiple` / `_cbor_realloc_multiple`: overflow guard first (generated), then one request -/
def Ctx.allocMultiple (c : Ctx) (ω : Oracle) (size count : Nat) : Bool × Ctx :=
  if Gen._cbor_safe_to_multiply (UInt64.ofNat size) (UInt64.ofNat count) then c.alloc ω (size * count)
  else (false, c)

/-- capacity after one geometric growth step -/
def grow (alloc : Nat) : Nat := if alloc = 0 then 1 else growth * alloc

/-- growth of an indefinite container: `_cbor_safe_to_multiply(CBOR_BUFFER_GROWTH, allocated)` first, then
`_cbor_realloc_multiple(data, element size, new capacity)` -/
def Ctx.growAlloc (c : Ctx) (ω : Oracle) (elt alloc : Nat) : Bool × Ctx :=
  if Gen._cbor_safe_to_multiply (UInt64.ofNat growth) (UInt64.ofNat alloc) then c.allocMultiple ω elt (grow alloc)
  else (false, c)

/-- `_cbor_builder_append`: deliver a finished item to the item on top of the stack.  `fuel` bounds the
cascade of completed definite containers (at most the stack height). -/
def append (ω : Oracle) : Nat → Item → Ctx → Ctx
  | 0, _, c => { c with fault := true }
  | fuel+1, item, c =>
    match c.stack with
    | [] => { c with root := some item }
    | top :: rest =>
      match top.item with
      | .arrD alloc xs =>
        if top.subitems = 0 then { c with fault := true } else        -- CBOR_ASSERT(subitems > 0)
        if xs.length ≥ alloc then { c with creationFailed := true }   -- cbor_array_push refuses
        else
          let sub := top.subitems - 1
          let it := PItem.arrD alloc (xs ++ [item])
          if sub = 0 then append ω fuel it.finish { c with stack := rest }
          else { c with stack := { item := it, subitems := sub } :: rest }
      | .arrI alloc xs =>
        if xs.length ≥ alloc then
          let (ok, c) := c.growAlloc ω szPtr alloc
          if ok then { c with stack := { top with item := .arrI (grow alloc) (xs ++ [item]) } :: rest }
          else { c with creationFailed := true }
        else { c with stack := { top with item := .arrI alloc (xs ++ [item]) } :: rest }
      | .mapD alloc kvs key =>
        if top.subitems % 2 = 1 then
          -- odd: this is a value
          match key with
          | none => { c with fault := true }
          | some k =>
            if top.subitems = 0 then { c with fault := true } else
            let sub := top.subitems - 1
            let it := PItem.mapD alloc (kvs ++ [(k, item)]) none
            if sub = 0 then append ω fuel it.finish { c with stack := rest }
            else { c with stack := { item := it, subitems := sub } :: rest }
        else
          if kvs.length ≥ alloc then { c with creationFailed := true }
          else
            if top.subitems = 0 then { c with fault := true } else
            let sub := top.subitems - 1
            if sub = 0 then { c with fault := true }   -- a key cannot complete a map (subitems is even)
            else { c with stack := { item := .mapD alloc kvs (some item), subitems := sub } :: rest }
      | .mapI alloc kvs key =>
        if top.subitems % 2 = 1 then
          match key with
          | none => { c with fault := true }
          | some k => { c with stack := { item := .mapI alloc (kvs ++ [(k, item)]) none, subitems := top.subitems ^^^ 1 } :: rest }
        else
          if kvs.length ≥ alloc then
            let (ok, c) := c.growAlloc ω szPair alloc
            if ok then { c with stack := { item := .mapI (grow alloc) kvs (some item), subitems := top.subitems ^^^ 1 } :: rest }
            else { c with creationFailed := true }
          else { c with stack := { item := .mapI alloc kvs (some item), subitems := top.subitems ^^^ 1 } :: rest }
      | .tag n _ =>
        if top.subitems ≠ 1 then { c with fault := true } else        -- CBOR_ASSERT(subitems == 1)
        append ω fuel (Item.tag n item) { c with stack := rest }
      | .bstrI _ _ => { c with syntaxError := true }
      | .tstrI _ _ => { c with syntaxError := true }

/-- `PUSH_CTX_STACK` with `_cbor_stack_push` (limit `L`, then one request for the record) -/
def pushFrame (ω : Oracle) (L : Nat) (c : Ctx) (it : PItem) (sub : UInt64) : Ctx :=
  if c.stack.length = L then { c with creationFailed := true }
  else
    let (ok, c) := c.alloc ω szStackRec
    if ok then { c with stack := { item := it, subitems := sub } :: c.stack }
    else { c with creationFailed := true }

def fuelOf (c : Ctx) : Nat := c.stack.length + 1

/-- integers, floats, simple values: one request for the item, then append -/
def scalar (ω : Oracle) (c : Ctx) (extra : Nat) (it : Item) : Ctx :=
  let (ok, c) := c.alloc ω (szItem + extra)
  if ok then append ω (fuelOf c) it c else { c with creationFailed := true }

/-- definite (byte / text) string callback: copy buffer, item, then chunk-or-append -/
def stringCb (ω : Oracle) (c : Ctx) (isText : Bool) (data : List UInt8) : Ctx :=
  let (ok1, c) := c.alloc ω data.length
  if !ok1 then { c with creationFailed := true } else
  let (ok2, c) := c.alloc ω szItem
  if !ok2 then { c with creationFailed := true } else
  match c.stack with
  | top :: rest =>
    match top.item, isText with
    | .bstrI cap cs, false =>
      if cs.length = cap then
        let (ok, c) := c.growAlloc ω szPtr cap
        if ok then { c with stack := { top with item := .bstrI (grow cap) (cs ++ [data]) } :: rest }
        else { c with creationFailed := true }
      else { c with stack := { top with item := .bstrI cap (cs ++ [data]) } :: rest }
    | .tstrI cap cs, true =>
      if cs.length = cap then
        let (ok, c) := c.growAlloc ω szPtr cap
        if ok then { c with stack := { top with item := .tstrI (grow cap) (cs ++ [data]) } :: rest }
        else { c with creationFailed := true }
      else { c with stack := { top with item := .tstrI cap (cs ++ [data]) } :: rest }
    | _, _ => append ω (fuelOf c) (if isText then .text data else .bytes data) c
  | [] => append ω (fuelOf c) (if isText then .text data else .bytes data) c

/-- indefinite string start: item, then its chunk-table struct, then push -/
def indefString (ω : Oracle) (L : Nat) (c : Ctx) (isText : Bool) : Ctx :=
  let (ok1, c) := c.alloc ω szItem
  if !ok1 then { c with creationFailed := true } else
  let (ok2, c) := c.alloc ω szIndefStr
  if !ok2 then { c with creationFailed := true } else
  pushFrame ω L c (if isText then .tstrI 0 [] else .bstrI 0 []) 0

def arrayStart (ω : Oracle) (L : Nat) (c : Ctx) (n : UInt64) : Ctx :=
  let (ok1, c) := c.alloc ω szItem
  if !ok1 then { c with creationFailed := true } else
  let (ok2, c) := c.allocMultiple ω szPtr n.toNat
  if !ok2 then { c with creationFailed := true } else
  if n > 0 then pushFrame ω L c (.arrD n.toNat []) n
  else append ω (fuelOf c) (.array []) c

def mapStart (ω : Oracle) (L : Nat) (c : Ctx) (n : UInt64) : Ctx :=
  let (ok1, c) := c.alloc ω szItem
  if !ok1 then { c with creationFailed := true } else
  let (ok2, c) := c.allocMultiple ω szPair n.toNat
  if !ok2 then { c with creationFailed := true } else
  if n > 0 then pushFrame ω L c (.mapD n.toNat [] none) (n * 2)
  else append ω (fuelOf c) (.map []) c

def indefContainer (ω : Oracle) (L : Nat) (c : Ctx) (it : PItem) : Ctx :=
  let (ok, c) := c.alloc ω szItem
  if !ok then { c with creationFailed := true } else pushFrame ω L c it 0

def tagCb (ω : Oracle) (L : Nat) (c : Ctx) (v : UInt64) : Ctx :=
  let (ok, c) := c.alloc ω szItem
  if !ok then { c with creationFailed := true } else pushFrame ω L c (.tag v.toNat none) 1

/-- `cbor_builder_indef_break_callback` -/
def breakCb (ω : Oracle) (c : Ctx) : Ctx :=
  match c.stack with
  | top :: rest =>
    let indefinite := match top.item with
      | .arrI _ _ | .mapI _ _ _ | .bstrI _ _ | .tstrI _ _ => true
      | _ => false
    let isMap := match top.item with | .mapD _ _ _ | .mapI _ _ _ => true | _ => false
    if indefinite && (!isMap || top.subitems % 2 = 0) then
      append ω (fuelOf c) top.item.finish { c with stack := rest }
    else { c with syntaxError := true }
  | [] => { c with syntaxError := true }

def bytesOf (src : Array UInt8) (off len : Nat) : List UInt8 := (List.range len).map fun i => src.getD (off + i) 0

/-- dispatch one callback invocation of the streaming decoder to the builder -/
def callback (ω : Oracle) (L : Nat) (src : Array UInt8) (c : Ctx) : Gen.Event → Ctx
  | .uint8 v => scalar ω c 1 (.uint .w8 v.toNat)
  | .uint16 v => scalar ω c 2 (.uint .w16 v.toNat)
  | .uint32 v => scalar ω c 4 (.uint .w32 v.toNat)
  | .uint64 v => scalar ω c 8 (.uint .w64 v.toNat)
  | .negint8 v => scalar ω c 1 (.negint .w8 v.toNat)
  | .negint16 v => scalar ω c 2 (.negint .w16 v.toNat)
  | .negint32 v => scalar ω c 4 (.negint .w32 v.toNat)
  | .negint64 v => scalar ω c 8 (.negint .w64 v.toNat)
  | .byte_string off len =>
    -- the payload handed to the callback lies inside the caller's buffer (else: out-of-bounds read in memcpy)
    if off + len.toNat ≤ src.size then stringCb ω c false (bytesOf src off len.toNat) else { c with fault := true }
  | .byte_string_start => indefString ω L c false
  | .string off len =>
    if off + len.toNat ≤ src.size then stringCb ω c true (bytesOf src off len.toNat) else { c with fault := true }
  | .string_start => indefString ω L c true
  | .array_start n => arrayStart ω L c n
  | .indef_array_start => indefContainer ω L c (.arrI 0 [])
  | .map_start n => mapStart ω L c n
  | .indef_map_start => indefContainer ω L c (.mapI 0 [] none)
  | .tag v => tagCb ω L c v
  | .float2 f => scalar ω c 4 (.half f.toNat)
  | .float4 f => scalar ω c 4 (.single f.toNat)
  | .float8 f => scalar ω c 8 (.double f.toNat)
  | .undefined => scalar ω c 0 (.simple 23)
  | .null => scalar ω c 0 (.simple 22)
  | .boolean b => scalar ω c 0 (.simple (if b then 21 else 20))
  | .indef_break => breakCb ω c

/-- `enum cbor_error_code` -/
inductive Code | none | notEnough | noData | malformed | mem | syntax
deriving DecidableEq, Repr, Inhabited

/-- `struct cbor_load_result` -/
structure LoadResult where
  code : Code
  position : Nat
  read : Nat
deriving DecidableEq, Repr, Inhabited

structure LoadOut where
  item : Option Item
  result : LoadResult
  reqs : Nat
  fault : Bool
deriving Repr, Inhabited

/-- the `do { … } while (stack.size > 0)` loop of `cbor_load`; `fuel` ≥ remaining bytes + 1 -/
def loadLoop (ω : Oracle) (L : Nat) (src : Array UInt8) : Nat → Ctx → Nat → LoadOut
  | 0, c, read => { item := none, result := { code := .notEnough, position := read, read := read }, reqs := c.reqs, fault := true }
  | fuel+1, c, read =>
    if src.size > read then
      let d := Gen.cbor_stream_decode src read (UInt64.ofNat (src.size - read))
      let c := d.2.foldl (callback ω L src) c
      if d.1.status = Gen.CBOR_DECODER_FINISHED then
        let read := read + d.1.read.toNat
        if c.creationFailed then { item := none, result := { code := .mem, position := read, read := read }, reqs := c.reqs, fault := c.fault }
        else if c.syntaxError then { item := none, result := { code := .syntax, position := read, read := read }, reqs := c.reqs, fault := c.fault }
        else if c.stack.length > 0 then loadLoop ω L src fuel c read
        else { item := c.root, result := { code := .none, position := 0, read := read }, reqs := c.reqs, fault := c.fault || c.root.isNone }
      else if d.1.status = Gen.CBOR_DECODER_NEDATA then
        { item := none, result := { code := .notEnough, position := read, read := read }, reqs := c.reqs, fault := c.fault }
      else
        { item := none, result := { code := .malformed, position := read, read := read }, reqs := c.reqs, fault := c.fault }
    else
      { item := none, result := { code := .notEnough, position := read, read := read }, reqs := c.reqs, fault := c.fault }

/-- `cbor_load(source, source_size, &result)`; `r0` stands for what the caller left in `*result` and is ignored: every
path writes all three fields of the result (`Props.C05.C05_fields_written`) -/
def load (ω : Oracle) (L : Nat) (_r0 : LoadResult) (src : Array UInt8) : LoadOut :=
  if src.size = 0 then
    { item := none, result := { code := .noData, position := 0, read := 0 }, reqs := 0, fault := false }
  else loadLoop ω L src (src.size + 1) {} 0

end Model
