import Cbor.Spec.HeadLemmas
import Cbor.Spec.Encode
/-! Decoding an encoded head: RFC 8949 heads are self-delimiting and invertible. -/
namespace Spec

theorem beNat_beBytes (get : Nat → UInt8) (off k v : Nat)
    (hg : ∀ i (h : i < (beBytes v k).length), get (off + i) = (beBytes v k)[i]) :
    beNat get off k = v % 256 ^ k := by
  induction k generalizing off with
  | zero => simp [beNat, Nat.mod_one]
  | succ k ih =>
    have h0 := hg 0 (by simp [beBytes])
    simp only [beBytes, List.getElem_cons_zero, Nat.add_zero] at h0
    have hrest : ∀ i (h : i < (beBytes v k).length), get (off + 1 + i) = (beBytes v k)[i] := by
      intro i hi
      have := hg (i + 1) (by simp [beBytes]; omega)
      simpa [beBytes, Nat.add_assoc, Nat.add_comm 1 i] using this
    simp only [beNat]
    rw [h0, ih (off + 1) hrest]
    rw [UInt8.toNat_ofNat_of_lt' (show v / 256 ^ k % 256 < 256 from Nat.mod_lt _ (by decide)), Nat.pow_succ, Nat.mod_mul, Nat.mul_comm]
    omega

theorem beBytes_length (v k : Nat) : (beBytes v k).length = k := by
  induction k with
  | zero => rfl
  | succ k ih => simp [beBytes, ih]

theorem headBytes_length (mt ai v : Nat) : (headBytes mt ai v).length = if ai < 24 then 1 else 1 + argBytes ai := by
  unfold headBytes; split <;> simp [beBytes_length] <;> omega

section
variable {get : Nat → UInt8} {mt ai v : Nat} (hg : ∀ i (h : i < (headBytes mt ai v).length), get i = (headBytes mt ai v)[i])
include hg

theorem byte0_headBytes (hmt : mt ≤ 7) (hai : ai < 32) : (get 0).toNat / 32 = mt ∧ (get 0).toNat % 32 = ai := by
  have h0 : get 0 = UInt8.ofNat (mt * 32 + ai) := by
    rw [hg 0 (by rw [headBytes_length]; split <;> omega)]; unfold headBytes; split <;> rfl
  have h0n : (get 0).toNat = mt * 32 + ai := by rw [h0]; exact UInt8.toNat_ofNat_of_lt' (show mt * 32 + ai < 256 by omega)
  omega

theorem beNat_headBytes (ha : ¬ ai < 24) (hv : v < 256 ^ argBytes ai) : beNat get 1 (argBytes ai) = v := by
  rw [beNat_beBytes get 1 (argBytes ai) v, Nat.mod_eq_of_lt hv]
  intro i hi
  rw [hg (1 + i) (by rw [headBytes_length, if_neg ha]; rw [beBytes_length] at hi; omega)]
  simp [headBytes, ha, Nat.add_comm 1 i]

end

theorem decodeHead_headBytes {get : Nat → UInt8} {len mt ai v : Nat} (hmt : mt < 7) (hai : ai ≤ 27)
    (hv : if ai < 24 then v = ai else v < 256 ^ argBytes ai)
    (hg : ∀ i (h : i < (headBytes mt ai v).length), get i = (headBytes mt ai v)[i])
    (hl : (headBytes mt ai v).length ≤ len) :
    decodeHead get len = tokOfArg mt ai v (headBytes mt ai v).length len := by
  have hlen := headBytes_length mt ai v
  obtain ⟨hmtv, haiv⟩ := byte0_headBytes hg (by omega) (by omega)
  rw [decodeHead, if_neg (by rw [hlen] at hl; split at hl <;> omega), hmtv, haiv, if_neg (by omega), decodeMtArg]
  by_cases ha : ai < 24
  · rw [if_pos ha] at hv hlen ⊢
    rw [hlen, hv]
  · rw [if_neg ha] at hv hlen ⊢
    rw [if_pos hai, hlen, if_pos (hlen ▸ hl), beNat_headBytes hg ha hv]

theorem decodeHead_float {get : Nat → UInt8} {len ai v : Nat} (hai : ai = 25 ∨ ai = 26 ∨ ai = 27)
    (hv : v < 256 ^ argBytes ai)
    (hg : ∀ i (h : i < (headBytes 7 ai v).length), get i = (headBytes 7 ai v)[i])
    (hl : (headBytes 7 ai v).length ≤ len) :
    decodeHead get len =
      .ok (if ai = 25 then .half v else if ai = 26 then .single v else .double v) (1 + argBytes ai) := by
  have ha : ¬ ai < 24 := by omega
  have hlen := headBytes_length 7 ai v
  rw [if_neg ha] at hlen
  obtain ⟨hmtv, haiv⟩ := byte0_headBytes hg (Nat.le_refl 7) (by omega)
  have hb := beNat_headBytes hg ha hv
  rw [decodeHead, if_neg (by omega), hmtv, haiv, if_pos rfl, decodeMt7]
  rcases hai with rfl | rfl | rfl
  all_goals (simp [argBytes] at hb hl hlen ⊢; rw [hb]; simp; omega)

end Spec
