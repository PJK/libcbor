import Cbor.Spec.DecodeLemmas
import Cbor.Spec.EncodeLemmas
/-!
# Round trip at the specification level: decoding the RFC 8949 encoding of a tree gives the tree back

`Spec.decode (Spec.encode t) = ok (renorm t) (length)`, for every tree whose scalars fit their widths, whose
simple values are the assigned ones, and whose nesting is within the limit.  `renorm` replaces NaN payloads by
the canonical quiet NaN (what `encode` writes).
-/
namespace Spec.RT

def At (get : Nat → UInt8) (p : Nat) (bs : List UInt8) : Prop := ∀ i (h : i < bs.length), get (p + i) = bs[i]

theorem At.left {get p a b} (h : At get p (a ++ b)) : At get p a := by
  intro i hi
  have := h i (by simp; omega)
  rw [this, List.getElem_append_left hi]

theorem At.right {get p a b} (h : At get p (a ++ b)) : At get (p + a.length) b := by
  intro i hi
  have := h (a.length + i) (by simp; omega)
  rw [Nat.add_assoc, this, List.getElem_append_right (by omega)]
  simp

theorem at_slice {get p} {bs : List UInt8} (h : At get p bs) : slice get p bs.length = bs := by
  apply List.ext_getElem
  · simp [slice]
  · intro i h1 h2
    simp only [slice, List.getElem_map, List.getElem_range]
    exact h i (by simpa [slice] using h1)

theorem shortestAi_le (v : Nat) : shortestAi v ≤ 27 := by
  unfold shortestAi
  repeat' split
  all_goals omega

theorem shortest_hv (v : Nat) (hv : v < 2 ^ 64) :
    if shortestAi v < 24 then v = shortestAi v else v < 256 ^ argBytes (shortestAi v) := by
  unfold shortestAi argBytes
  by_cases h1 : v < 24
  · simp [h1]
  · by_cases h2 : v < 256
    · simp [h1, h2]
    · by_cases h3 : v < 65536
      · simp [h1, h2, h3]
      · by_cases h4 : v < 4294967296
        · simp [h1, h2, h3, h4]
        · simp [h1, h2, h3, h4]; omega

section
variable {get : Nat → UInt8} (len : Nat) {p : Nat}

theorem headAt_headBytes {mt ai v : Nat} (hmt : mt < 7) (hai : ai ≤ 27)
    (hv : if ai < 24 then v = ai else v < 256 ^ argBytes ai)
    (hat : At get p (headBytes mt ai v)) (hl : p + (headBytes mt ai v).length ≤ len) :
    headAt get len p = tokOfArg mt ai v (headBytes mt ai v).length (len - p) :=
  decodeHead_headBytes (get := fun i => get (p + i)) hmt hai hv (fun i h => hat i h) (by omega)

theorem headAt_head {mt v : Nat} (hmt : mt < 7) (hv : v < 2 ^ 64)
    (hat : At get p (head mt v)) (hl : p + (head mt v).length ≤ len) :
    headAt get len p = tokOfArg mt (shortestAi v) v (head mt v).length (len - p) :=
  headAt_headBytes len hmt (shortestAi_le v) (shortest_hv v hv) hat hl

theorem headAt_float {ai v : Nat} (hai : ai = 25 ∨ ai = 26 ∨ ai = 27) (hv : v < 256 ^ argBytes ai)
    (hat : At get p (headBytes 7 ai v)) (hl : p + (headBytes 7 ai v).length ≤ len) :
    headAt get len p = .ok (if ai = 25 then .half v else if ai = 26 then .single v else .double v) (1 + argBytes ai) :=
  decodeHead_float (get := fun i => get (p + i)) hai hv (fun i h => hat i h) (by omega)

theorem headAt_one {b : UInt8} {t : Tok} (hb : decodeHead (fun _ => b) 1 = .ok t 1) (hat : At get p [b]) (hl : p + 1 ≤ len) :
    headAt get len p = .ok t 1 :=
  decodeHead_byte hb (hat 0 (Nat.lt_succ_self 0)) (by omega)

theorem headAt_str {mt : Nat} (hmt : mt = 2 ∨ mt = 3) (b : List UInt8) (hc : b.length < 2 ^ 64)
    (hat : At get p (head mt b.length)) (hb : At get (p + (head mt b.length).length) b)
    (hl : p + ((head mt b.length).length + b.length) ≤ len) :
    slice get (p + (head mt b.length).length) b.length = b ∧
    (mt = 2 → headAt get len p = .ok (.bytes (head mt b.length).length b.length) ((head mt b.length).length + b.length)) ∧
    (mt = 3 → headAt get len p = .ok (.text (head mt b.length).length b.length) ((head mt b.length).length + b.length)) := by
  have hh := headAt_head len (by omega) hc hat (by omega)
  refine ⟨at_slice hb, ?_, ?_⟩ <;> rintro rfl <;> rw [hh] <;> exact if_pos (by omega)

end

theorem headAt_byte (get : Nat → UInt8) (len p : Nat) (b : UInt8) (hat : At get p [b]) (hl : p + 1 ≤ len) :
    (fun i => get (p + i)) 0 = b ∧ 1 ≤ len - p := by
  refine ⟨?_, by omega⟩
  have := hat 0 (by simp)
  simpa using this

mutual
/-- trees the decoder can return / the construction API can build, in the property's sense: scalars fit their
width, lengths fit `size_t`, simple values are the assigned ones, the pattern a half float is written as fits 16 bits -/
def Canon : Item → Prop
  | .uint w v => v < 2 ^ (8 * w.bytes)
  | .negint w v => v < 2 ^ (8 * w.bytes)
  | .bytes b => b.length < 2 ^ 64
  | .text b => b.length < 2 ^ 64
  | .bytesI cs => ∀ c ∈ cs, c.length < 2 ^ 64
  | .textI cs => ∀ c ∈ cs, c.length < 2 ^ 64
  | .array xs => xs.length < 2 ^ 56 ∧ CanonL xs
  | .arrayI xs => CanonL xs
  | .map kvs => kvs.length < 2 ^ 56 ∧ CanonP kvs
  | .mapI kvs => CanonP kvs
  | .tag n x => n < 2 ^ 64 ∧ Canon x
  | .simple v => 20 ≤ v ∧ v ≤ 23
  | .half f => Float.singleToHalf f < 65536
  | .single b => b < 2 ^ 32
  | .double b => b < 2 ^ 64
def CanonL : List Item → Prop
  | [] => True
  | x :: xs => Canon x ∧ CanonL xs
def CanonP : List (Item × Item) → Prop
  | [] => True
  | (k, v) :: r => Canon k ∧ Canon v ∧ CanonP r
end

mutual
/-- what decoding the encoding yields: the same tree with every NaN replaced by the canonical quiet NaN of its width -/
def renorm : Item → Item
  | .array xs => .array (renormL xs)
  | .arrayI xs => .arrayI (renormL xs)
  | .map kvs => .map (renormP kvs)
  | .mapI kvs => .mapI (renormP kvs)
  | .tag n x => .tag n (renorm x)
  | .half f => .half (halfToSingle (Float.singleToHalf f))
  | .single b => .single (Float.canonSingle b)
  | .double b => .double (Float.canonDouble b)
  | x => x
def renormL : List Item → List Item
  | [] => []
  | x :: xs => renorm x :: renormL xs
def renormP : List (Item × Item) → List (Item × Item)
  | [] => []
  | (k, v) :: r => (renorm k, renorm v) :: renormP r
end

mutual
/-- fuel the recursive-descent reference decoder needs for the encoding of `t` -/
def need : Item → Nat
  | .bytesI cs => 2 + cs.length
  | .textI cs => 2 + cs.length
  | .array xs => 1 + needL xs
  | .arrayI xs => 1 + needL xs
  | .map kvs => 1 + needP kvs
  | .mapI kvs => 1 + needP kvs
  | .tag _ x => 1 + need x
  | _ => 1
def needL : List Item → Nat
  | [] => 1
  | x :: xs => 1 + max (need x) (needL xs)
def needP : List (Item × Item) → Nat
  | [] => 1
  | (k, v) :: r => 1 + max (max (need k) (need v)) (needP r)
end

def Small : Tok → Bool
  | .array n => decide (n < 2 ^ 56)
  | .map n => decide (n < 2 ^ 56)
  | _ => true

/-- the allocation predicate grants everything the encoding of a canonical tree can ask for (libcbor's own guard
`okGuard` is such a predicate, and so is "memory permitting") -/
def OkAll (okA : AllocOk) : Prop := ∀ tok, Small tok = true → okA tok = true

theorem okAll_true : OkAll (fun _ => true) := fun _ _ => rfl

theorem widthOf_intAi (w : Width) (v : Nat) : widthOf (intAi w v) = w := by
  cases w
  · simp only [intAi, widthOf]
    by_cases h : v < 24
    · simp only [h, if_true]
      have h1 : ¬ v = 25 := by omega
      have h2 : ¬ v = 26 := by omega
      have h3 : ¬ v = 27 := by omega
      simp [h1, h2, h3]
    · simp [h]
  all_goals simp [intAi, widthOf]

theorem intAi_le (w : Width) (v : Nat) : intAi w v ≤ 27 := by
  cases w <;> simp [intAi]; split <;> omega

theorem intAi_hv (w : Width) (v : Nat) (h : v < 2 ^ (8 * w.bytes)) :
    if intAi w v < 24 then v = intAi w v else v < 256 ^ argBytes (intAi w v) := by
  cases w
  · simp only [intAi, argBytes, Width.bytes] at h ⊢
    by_cases c : v < 24
    · simp [c]
    · simp [c]; omega
  all_goals (simp [intAi, argBytes, Width.bytes] at h ⊢; omega)

theorem canonHalf_lt (h : Nat) (hh : h < 65536) : Float.canonHalf h < 65536 := by
  unfold Float.canonHalf; split <;> omega
theorem canonSingle_lt (b : Nat) (h : b < 2 ^ 32) : Float.canonSingle b < 2 ^ 32 := by
  unfold Float.canonSingle; split <;> omega
theorem canonDouble_lt (b : Nat) (h : b < 2 ^ 64) : Float.canonDouble b < 2 ^ 64 := by
  unfold Float.canonDouble; split <;> omega

theorem add_max3_le {n a b c m : Nat} (h : n + max (max a b) c ≤ m) : n + a ≤ m ∧ n + b ≤ m ∧ n + c ≤ m := by omega

theorem need_pos (t : Item) : 1 ≤ need t := by cases t <;> simp only [need] <;> omega
theorem needL_pos (xs : List Item) : 1 ≤ needL xs := by cases xs <;> simp only [needL] <;> omega
theorem needP_pos : ∀ kvs : List (Item × Item), 1 ≤ needP kvs
  | [] => Nat.le_refl 1
  | (_, _) :: _ => by simp only [needP]; omega

theorem headBytes_pos (mt ai v : Nat) : 1 ≤ (headBytes mt ai v).length := by
  rw [headBytes_length]; split <;> omega

theorem enc_pos : ∀ t : Item, 1 ≤ (encode t).length
  | .uint .. | .negint .. | .simple _ | .half _ | .single _ | .double _ => by simp only [encode]; exact headBytes_pos ..
  | .bytes _ | .text _ | .array _ | .map _ | .tag .. => by
    simp only [encode, head, List.length_append]; exact Nat.le_add_right_of_le (headBytes_pos ..)
  | .bytesI _ | .textI _ | .arrayI _ | .mapI _ => by simp [encode]

theorem chunks_count_le (mt : Nat) : ∀ cs : List (List UInt8), cs.length ≤ (encodeChunks mt cs).length
  | [] => by simp [encodeChunks]
  | c :: cs => by
    simp only [encodeChunks, List.length_append, List.length_cons]
    have := chunks_count_le mt cs
    have := headBytes_pos mt (shortestAi c.length) c.length
    unfold head; omega

mutual
theorem need_le : ∀ t : Item, need t ≤ 2 * (encode t).length
  | .uint .. | .negint .. | .bytes _ | .text _ | .simple _ | .half _ | .single _ | .double _ => by
    simp only [need]; exact Nat.le_trans (enc_pos _) (Nat.le_mul_of_pos_left _ (by decide))
  | .bytesI cs => by
    have := chunks_count_le 2 cs
    simp only [need, encode, List.length_append, List.length_cons, List.length_nil]; omega
  | .textI cs => by
    have := chunks_count_le 3 cs
    simp only [need, encode, List.length_append, List.length_cons, List.length_nil]; omega
  | .array xs => by
    have := needL_le xs
    have := headBytes_pos 4 (shortestAi xs.length) xs.length
    simp only [need, encode, List.length_append]; unfold head; omega
  | .arrayI xs => by
    have := needL_le xs
    simp only [need, encode, List.length_append, List.length_cons, List.length_nil]; omega
  | .map kvs => by
    have := needP_le kvs
    have := headBytes_pos 5 (shortestAi kvs.length) kvs.length
    simp only [need, encode, List.length_append]; unfold head; omega
  | .mapI kvs => by
    have := needP_le kvs
    simp only [need, encode, List.length_append, List.length_cons, List.length_nil]; omega
  | .tag n x => by
    have := need_le x
    have := headBytes_pos 6 (shortestAi n) n
    simp only [need, encode, List.length_append]; unfold head; omega
theorem needL_le : ∀ xs : List Item, needL xs ≤ 2 * (encodeList xs).length + 1
  | [] => by simp [needL, encodeList]
  | x :: xs => by
    have := need_le x; have := needL_le xs; have := enc_pos x
    simp only [needL, encodeList, List.length_append]; omega
theorem needP_le : ∀ kvs : List (Item × Item), needP kvs ≤ 2 * (encodePairs kvs).length + 1
  | [] => by simp [needP, encodePairs]
  | (k, v) :: r => by
    have := need_le k; have := need_le v; have := needP_le r; have := enc_pos k; have := enc_pos v
    simp only [needP, encodePairs, List.length_append]; omega
end

structure RT (lz : Bool) (L : Nat) (get : Nat → UInt8) (len : Nat) (okA : AllocOk) (f : Nat) : Prop where
  item : ∀ t, Canon t → ∀ p d, need t ≤ f → At get p (encode t) → p + (encode t).length ≤ len → d + openDepth t ≤ L →
    item lz L okA get len f p d = .ok (renorm t) (p + (encode t).length)
  elems : ∀ xs, CanonL xs → ∀ p d acc, needL xs ≤ f → At get p (encodeList xs) → p + (encodeList xs).length ≤ len →
    d + depthList xs ≤ L →
    elems lz L okA get len f xs.length p d acc = .ok (acc.reverse ++ renormL xs) (p + (encodeList xs).length)
  elemsI : ∀ xs, CanonL xs → ∀ p d acc, needL xs ≤ f → At get p (encodeList xs ++ [0xFF]) →
    p + (encodeList xs).length + 1 ≤ len → d + depthList xs ≤ L →
    elemsI lz L okA get len f p d acc = .ok (acc.reverse ++ renormL xs) (p + (encodeList xs).length + 1)
  pairs : ∀ kvs, CanonP kvs → ∀ p d acc, needP kvs ≤ f → At get p (encodePairs kvs) → p + (encodePairs kvs).length ≤ len →
    d + depthPairs kvs ≤ L →
    pairs lz L okA get len f kvs.length p d acc = .ok (acc.reverse ++ renormP kvs) (p + (encodePairs kvs).length)
  pairsI : ∀ kvs, CanonP kvs → ∀ p d acc, needP kvs ≤ f → At get p (encodePairs kvs ++ [0xFF]) →
    p + (encodePairs kvs).length + 1 ≤ len → d + depthPairs kvs ≤ L →
    pairsI lz L okA get len f p d acc = .ok (acc.reverse ++ renormP kvs) (p + (encodePairs kvs).length + 1)

section
variable {lz : Bool} {L : Nat} {get : Nat → UInt8} (len : Nat) {okA : AllocOk} (hok : OkAll okA)
include hok

theorem chunks_rt {mt : Nat} (hmt : mt = 2 ∨ mt = 3) : ∀ (cs : List (List UInt8)), (∀ c ∈ cs, c.length < 2 ^ 64) →
    ∀ (f p d : Nat) (acc : List (List UInt8)), 1 + cs.length ≤ f → At get p (encodeChunks mt cs ++ [0xFF]) →
      p + (encodeChunks mt cs).length + 1 ≤ len →
      chunks lz L okA get len f mt p d acc = .ok (acc.reverse ++ cs) (p + (encodeChunks mt cs).length + 1)
  | [], _, f + 1, p, d, acc, _, hat, hl => by
    rw [chunks_succ_head (headAt_one len (t := .brk) rfl hat hl) (hok _ rfl)]
    simp [encodeChunks]
  | c :: cs, hc, f + 1, p, d, acc, hf, hat, hl => by
    simp only [encodeChunks, List.length_append, List.append_assoc] at hat hl ⊢
    obtain ⟨hs, h2, h3⟩ := headAt_str len hmt c (hc c (List.mem_cons_self ..)) hat.left hat.right.left (by omega)
    have ih := chunks_rt hmt cs (fun x hx => hc x (List.mem_cons_of_mem _ hx)) f
      (p + (head mt c.length).length + c.length) d (c :: acc)
      (by simp at hf; omega) hat.right.right (by omega)
    rcases hmt with rfl | rfl
    · rw [chunks_succ_head (h2 rfl) (hok _ rfl)]
      simp only [if_true, hs]
      rw [← Nat.add_assoc, ih]
      simp [Nat.add_assoc]
    · rw [chunks_succ_head (h3 rfl) (hok _ rfl)]
      simp only [if_true, hs]
      rw [← Nat.add_assoc, ih]
      simp [Nat.add_assoc]

omit hok in
theorem RT.zero : RT lz L get len okA 0 where
  item t _ _ _ hf := absurd (need_pos t) (by omega)
  elems xs _ _ _ _ hf := absurd (needL_pos xs) (by omega)
  elemsI xs _ _ _ _ hf := absurd (needL_pos xs) (by omega)
  pairs kvs _ _ _ _ hf := absurd (needP_pos kvs) (by omega)
  pairsI kvs _ _ _ _ hf := absurd (needP_pos kvs) (by omega)

/-- every recursive call of the reference decoder is at fuel `f`; the list arguments only need a case distinction -/
theorem RT.succ {f : Nat} (ih : RT lz L get len okA f) : RT lz L get len okA (f + 1) where
  item := by
    intro t hc p d hf hat hl hd
    cases t <;> simp only [Canon, need, encode, renorm, openDepth, List.length_append, List.length_cons, List.length_nil,
      List.append_assoc] at hc hf hat hl hd ⊢
    case uint w v | negint w v =>
      rw [item_succ_head (headAt_headBytes len (by omega) (intAi_le w v) (intAi_hv w v hc) hat hl) (hok _ rfl), widthOf_intAi]
    case bytes b =>
      obtain ⟨hs, h2, _⟩ := headAt_str len (Or.inl rfl) b hc hat.left hat.right hl
      rw [item_succ_head (h2 rfl) (hok _ rfl)]
      simp only [hs]
    case text b =>
      obtain ⟨hs, _, h3⟩ := headAt_str len (Or.inr rfl) b hc hat.left hat.right hl
      rw [item_succ_head (h3 rfl) (hok _ rfl)]
      simp only [hs]
    case bytesI cs | textI cs =>
      rw [item_succ_head (headAt_one len rfl hat.left (by omega)) (hok _ rfl)]
      simp [chunks_rt len hok (by omega) cs hc f (p + 1) (d + 1) [] (by omega) hat.right (by omega), Res.map, Nat.add_assoc,
        show ¬ d ≥ L by omega]
    case arrayI xs =>
      rw [item_succ_head (headAt_one len rfl hat.left (by omega)) (hok _ rfl)]
      simp [ih.elemsI xs hc (p + 1) (d + 1) [] (by omega) hat.right (by omega) (by omega), Res.map, Nat.add_assoc,
        show ¬ d ≥ L by omega]
    case mapI kvs =>
      rw [item_succ_head (headAt_one len rfl hat.left (by omega)) (hok _ rfl)]
      simp [ih.pairsI kvs hc (p + 1) (d + 1) [] (by omega) hat.right (by omega) (by omega), Res.map, Nat.add_assoc,
        show ¬ d ≥ L by omega]
    case array xs =>
      rw [item_succ_head (headAt_head len (by omega) (by omega) hat.left (by omega)) (hok _ (decide_eq_true hc.1))]
      cases xs with
      | nil => rfl
      | cons x xs =>
        simp only [openDepth] at hd
        simp only []
        rw [if_neg (by simp), if_neg (by omega), ih.elems (x :: xs) hc.2 _ (d + 1) [] (by omega) hat.right (by omega) (by omega)]
        simp [Res.map, Nat.add_assoc]
    case map kvs =>
      rw [item_succ_head (headAt_head len (by omega) (by omega) hat.left (by omega)) (hok _ (decide_eq_true hc.1))]
      cases kvs with
      | nil => rfl
      | cons kv kvs =>
        simp only [openDepth] at hd
        simp only []
        rw [if_neg (by simp), if_neg (by omega), ih.pairs (kv :: kvs) hc.2 _ (d + 1) [] (by omega) hat.right (by omega) (by omega)]
        simp [Res.map, Nat.add_assoc]
    case tag n x =>
      rw [item_succ_head (headAt_head len (by omega) hc.1 hat.left (by omega)) (hok _ rfl)]
      simp [ih.item x hc.2 _ (d + 1) (by omega) hat.right (by omega) (by omega), Res.map, Nat.add_assoc,
        show ¬ d ≥ L by omega]
    case simple v =>
      have : v = 20 ∨ v = 21 ∨ v = 22 ∨ v = 23 := by omega
      rcases this with rfl | rfl | rfl | rfl <;> exact item_succ_head (headAt_one len rfl hat hl) (hok _ rfl)
    case half x =>
      exact item_succ_head (headAt_float len (Or.inl rfl) (by simp [argBytes]; omega) hat hl) (hok _ rfl)
    case single b =>
      exact item_succ_head (headAt_float len (Or.inr (Or.inl rfl)) (by have := canonSingle_lt b hc; simp [argBytes]; omega) hat hl)
        (hok _ rfl)
    case double b =>
      exact item_succ_head (headAt_float len (Or.inr (Or.inr rfl)) (by have := canonDouble_lt b hc; simp [argBytes]; omega) hat hl)
        (hok _ rfl)
  elems := by
    intro xs hc p d acc hf hat hl hd
    cases xs with
    | nil => simp [Spec.elems, renormL, encodeList]
    | cons x xs =>
      simp only [CanonL, needL, encodeList, List.length_append, depthList] at hc hf hat hl hd ⊢
      simp only [List.length_cons, Spec.elems, renormL, ih.item x hc.1 p d (by omega) hat.left (by omega) (by omega),
        ih.elems xs hc.2 _ d (renorm x :: acc) (by omega) hat.right (by omega) (by omega)]
      simp [Nat.add_assoc]
  elemsI := by
    intro xs hc p d acc hf hat hl hd
    cases xs with
    | nil =>
      simp only [encodeList, List.nil_append, List.length_nil, Nat.add_zero] at hat hl ⊢
      rw [Spec.elemsI, headAt_one len (t := .brk) rfl hat hl]
      simp [renormL]
    | cons x xs =>
      simp only [CanonL, needL, encodeList, List.length_append, List.append_assoc, depthList] at hc hf hat hl hd ⊢
      have hx := ih.item x hc.1 p d (by omega) hat.left (by omega) (by omega)
      rw [elemsI_succ (item_ok_not_brk hx), hx]
      simp only [renormL, ih.elemsI xs hc.2 _ d (renorm x :: acc) (by omega) hat.right (by omega) (by omega)]
      simp [Nat.add_assoc]
  pairs := by
    intro kvs hc p d acc hf hat hl hd
    rcases kvs with _ | ⟨⟨k, v⟩, r⟩
    · simp [Spec.pairs, renormP, encodePairs]
    · simp only [CanonP, needP, encodePairs, List.length_append, List.append_assoc, depthPairs] at hc hf hat hl hd ⊢
      have hf' := add_max3_le hf
      have hd' := add_max3_le hd
      simp only [List.length_cons, Spec.pairs, renormP, ih.item k hc.1 p d (by omega) hat.left (by omega) hd'.1,
        ih.item v hc.2.1 _ d (by omega) hat.right.left (by omega) hd'.2.1,
        ih.pairs r hc.2.2 _ d ((renorm k, renorm v) :: acc) (by omega) hat.right.right (by omega) hd'.2.2]
      simp [Nat.add_assoc]
  pairsI := by
    intro kvs hc p d acc hf hat hl hd
    rcases kvs with _ | ⟨⟨k, v⟩, r⟩
    · simp only [encodePairs, List.nil_append, List.length_nil, Nat.add_zero] at hat hl ⊢
      rw [Spec.pairsI, headAt_one len (t := .brk) rfl hat hl]
      simp [renormP]
    · simp only [CanonP, needP, encodePairs, List.length_append, List.append_assoc, depthPairs] at hc hf hat hl hd ⊢
      have hf' := add_max3_le hf
      have hd' := add_max3_le hd
      have hk := ih.item k hc.1 p d (by omega) hat.left (by omega) hd'.1
      rw [pairsI_succ (item_ok_not_brk hk), hk]
      simp only [renormP, ih.item v hc.2.1 _ d (by omega) hat.right.left (by omega) hd'.2.1,
        ih.pairsI r hc.2.2 _ d ((renorm k, renorm v) :: acc) (by omega) hat.right.right (by omega) hd'.2.2]
      simp [Nat.add_assoc]

theorem all_rt : ∀ f, RT lz L get len okA f
  | 0 => RT.zero len
  | f + 1 => (all_rt f).succ len hok

end

section
variable (lz : Bool) (L : Nat) (get : Nat → UInt8) (len : Nat) (okA : AllocOk) (hok : OkAll okA)
include hok

theorem elems_rt : ∀ (xs : List Item), CanonL xs → ∀ (f p d : Nat) (acc : List Item), needL xs ≤ f → At get p (encodeList xs) →
    p + (encodeList xs).length ≤ len → d + depthList xs ≤ L →
    elems lz L okA get len f xs.length p d acc = .ok (acc.reverse ++ renormL xs) (p + (encodeList xs).length) :=
  fun xs hc f => (all_rt len hok f).elems xs hc

theorem elemsI_rt : ∀ (xs : List Item), CanonL xs → ∀ (f p d : Nat) (acc : List Item), needL xs ≤ f → At get p (encodeList xs ++ [0xFF]) →
    p + (encodeList xs).length + 1 ≤ len → d + depthList xs ≤ L →
    elemsI lz L okA get len f p d acc = .ok (acc.reverse ++ renormL xs) (p + (encodeList xs).length + 1) :=
  fun xs hc f => (all_rt len hok f).elemsI xs hc

theorem pairs_rt : ∀ (kvs : List (Item × Item)), CanonP kvs → ∀ (f p d : Nat) (acc : List (Item × Item)), needP kvs ≤ f →
    At get p (encodePairs kvs) → p + (encodePairs kvs).length ≤ len → d + depthPairs kvs ≤ L →
    pairs lz L okA get len f kvs.length p d acc = .ok (acc.reverse ++ renormP kvs) (p + (encodePairs kvs).length) :=
  fun kvs hc f => (all_rt len hok f).pairs kvs hc

theorem pairsI_rt : ∀ (kvs : List (Item × Item)), CanonP kvs → ∀ (f p d : Nat) (acc : List (Item × Item)), needP kvs ≤ f →
    At get p (encodePairs kvs ++ [0xFF]) → p + (encodePairs kvs).length + 1 ≤ len → d + depthPairs kvs ≤ L →
    pairsI lz L okA get len f p d acc = .ok (acc.reverse ++ renormP kvs) (p + (encodePairs kvs).length + 1) :=
  fun kvs hc f => (all_rt len hok f).pairsI kvs hc

/-- **Round trip.**  Decoding a buffer that starts with the RFC 8949 encoding of a canonical tree whose nesting is
within the limit yields that tree (NaNs canonical) and consumes exactly the bytes of the encoding — whatever follows. -/
theorem decode_encode (t : Item) (hc : Canon t) (hd : openDepth t ≤ L) (hat : At get 0 (encode t)) (hl : (encode t).length ≤ len) :
    decode lz L okA get len = .ok (renorm t) (encode t).length := by
  have hp := enc_pos t
  unfold decode
  rw [if_neg (by omega)]
  have := (all_rt (lz := lz) (L := L) len hok (2 * len + 3)).item t hc 0 0 (by have := need_le t; omega) hat (by omega) (by omega)
  rw [this]
  simp

end
end Spec.RT
