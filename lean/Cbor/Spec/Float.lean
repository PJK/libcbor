/-!
# IEEE 754-2008 binary16 / binary32 / binary64 — the value a bit pattern denotes

Values are exact: `fin neg m e` is `(-1)^neg · m · 2^e` with `m` odd; zeros keep their sign; all NaNs are
one value (`nan`), as C15 treats them.
-/
namespace Spec.Float

inductive Val
  | zero (neg : Bool)
  | fin (neg : Bool) (m : Nat) (e : Int)
  | inf (neg : Bool)
  | nan
deriving DecidableEq, Repr, Inhabited

/-- number of trailing zero bits of `m` (fuel ≥ bit length of `m`; 0 for 0) -/
def tz : Nat → Nat → Nat
  | 0, _ => 0
  | f+1, m => if m % 2 = 0 ∧ m ≠ 0 then tz f (m / 2) + 1 else 0

/-- `(-1)^neg · m · 2^e`, with common factors of two moved into the exponent so that the mantissa is odd -/
def mk (neg : Bool) (m : Nat) (e : Int) : Val :=
  if m = 0 then .zero neg else
  let k := tz 64 m
  .fin neg (m / 2 ^ k) (e + k)

/-- generic IEEE interchange format: `eb` exponent bits, `mb` fraction bits -/
def value (eb mb : Nat) (bits : Nat) : Val :=
  let frac := bits % 2 ^ mb
  let ex := (bits / 2 ^ mb) % 2 ^ eb
  let neg := (bits / 2 ^ (mb + eb)) % 2 = 1
  let bias : Int := 2 ^ (eb - 1) - 1
  if ex = 2 ^ eb - 1 then (if frac = 0 then .inf neg else .nan)
  else if ex = 0 then mk neg frac (1 - bias - mb)                      -- subnormal / zero
  else mk neg (2 ^ mb + frac) ((ex : Int) - bias - mb)                 -- normal

def halfValue (h : Nat) : Val := value 5 10 h
def singleValue (b : Nat) : Val := value 8 23 b
def doubleValue (b : Nat) : Val := value 11 52 b

def isNaN (eb mb bits : Nat) : Bool := (bits / 2 ^ mb) % 2 ^ eb = 2 ^ eb - 1 ∧ bits % 2 ^ mb ≠ 0

/-- what re-encoding must produce: the pattern itself, or the canonical quiet NaN of the width -/
def canonHalf (h : Nat) : Nat := if isNaN 5 10 h then 0x7E00 else h
def canonSingle (b : Nat) : Nat := if isNaN 8 23 b then 0x7FC00000 else b
def canonDouble (b : Nat) : Nat := if isNaN 11 52 b then 0x7FF8000000000000 else b

/-- the binary16 pattern denoting the same value as the binary32 pattern `b`, when there is one
(±0, half-normal and half-subnormal values, ±∞); the canonical quiet NaN for any NaN.
For values that are not half-representable the result is whatever the formula gives (C15 only asks that
`cbor_encode_half` is total on them). -/
def singleToHalf (b : Nat) : Nat :=
  let sign := b / 2 ^ 31 % 2
  let e := b / 2 ^ 23 % 256
  let m := b % 2 ^ 23
  if e = 255 then (if m = 0 then sign * 0x8000 + 0x7C00 else 0x7E00)
  else if e = 0 then sign * 0x8000
  else if 113 ≤ e ∧ e ≤ 142 then sign * 0x8000 + (e - 112) * 1024 + m / 2 ^ 13       -- 2^-14 ≤ |x| < 2^16
  else if 103 ≤ e ∧ e < 113 then sign * 0x8000 + (2 ^ 23 + m) / 2 ^ (126 - e)        -- half subnormals
  else sign * 0x8000

/-- `b` holds a value some binary16 pattern denotes -/
def halfRepresentable (b : Nat) : Bool :=
  let e := b / 2 ^ 23 % 256
  let m := b % 2 ^ 23
  if e = 255 then true
  else if e = 0 then m = 0
  else if 113 ≤ e ∧ e ≤ 142 then m % 2 ^ 13 = 0
  else if 103 ≤ e ∧ e < 113 then (2 ^ 23 + m) % 2 ^ (126 - e) = 0
  else false

end Spec.Float
