import Cbor.Spec.Item
/-!
# Reference decoder (RFC 8949 §3 and Appendix C), with libcbor's error taxonomy (property C05)

A recursive-descent reading of one data item at offset `p` of a buffer, for a nesting limit `L`:

* `ok x q`      — a complete, well-formed item `x` occupies bytes `[p, q)`;
* `err notEnough pos` — the buffer ends inside the item; `pos` = offset of the first incomplete or missing head;
* `err malformed pos` — reserved / unsupported initial byte at offset `pos`;
* `err syntax pos`    — a complete head that is illegal where it stands ends at `pos` (break outside an
                        indefinite item or in value position of a map; a non-chunk inside a chunked string);
* `err mem pos`       — the head ending at `pos` would open nesting level `L + 1`, or declares storage that
                        cannot be allocated (`okA`).

`lazy = true` is libcbor's reporting order for an illegal item inside a chunked string: an item that itself
opens a container is read to its end (errors inside it win) and the SYNTAXERROR is reported where it ends.
`lazy = false` reports it just past the offending head.  Property C05 admits both.

`okA` is a fixed predicate on heads (in the theorems libcbor's own size_t overflow guard).  Refusals by the allocator at
run time are not part of this specification: they are a property of the run, not of the bytes.
-/
namespace Spec

inductive Err | notEnough | malformed | syntax | mem
deriving DecidableEq, Repr, Inhabited

inductive Res (α : Type)
  | ok (v : α) (next : Nat)
  | err (e : Err) (pos : Nat)
deriving Repr, Inhabited

/-- the `n` bytes starting at `p` -/
def slice (get : Nat → UInt8) (p n : Nat) : List UInt8 := (List.range n).map fun i => get (p + i)

/-- the binary32 pattern denoting the same value as the binary16 pattern `h` (NaN ↦ quiet NaN with the sign of `h`) -/
def halfToSingle (h : Nat) : Nat :=
  let ex := (h / 1024) % 32
  let mant := h % 1024
  let sign : Nat := if h % 65536 ≥ 32768 then 0x80000000 else 0
  let msb : Nat := if mant ≥ 512 then 9 else if mant ≥ 256 then 8 else if mant ≥ 128 then 7 else if mant ≥ 64 then 6
    else if mant ≥ 32 then 5 else if mant ≥ 16 then 4 else if mant ≥ 8 then 3 else if mant ≥ 4 then 2
    else if mant ≥ 2 then 1 else 0
  let mag : Nat :=
    if ex = 0 then (if mant = 0 then 0 else (msb + 103) * 8388608 + (mant - 2 ^ msb) * 2 ^ (23 - msb))
    else if ex ≠ 31 then (ex + 112) * 8388608 + mant * 8192
    else if mant = 0 then 0x7F800000 else 0x7FC00000
  sign + mag

/-- does this head open a nesting level (push a decoding-stack frame)? -/
def Tok.opens : Tok → Bool
  | .tag _ | .arrayStart | .mapStart | .bytesStart | .textStart => true
  | .array n => n ≠ 0
  | .map n => n ≠ 0
  | _ => false

/-- head at offset `p` of the buffer `(get, len)` -/
def headAt (get : Nat → UInt8) (len p : Nat) : HeadRes := decodeHead (fun i => get (p + i)) (len - p)

/-- `okA tok`: can the storage the head `tok` declares (payload of a definite string, slots of a definite
array or map) be allocated?  `fun _ => true` is "memory permitting"; libcbor itself refuses counts whose
byte size does not fit in `size_t`. -/
abbrev AllocOk := Tok → Bool

variable (lz : Bool) (L : Nat) (okA : AllocOk) (get : Nat → UInt8) (len : Nat)

mutual
/-- one data item at offset `p`, with `d` nesting levels already open -/
def item : Nat → Nat → Nat → Res Item
  | 0, p, _ => .err .notEnough p
  | f+1, p, d =>
    match headAt get len p with
    | .nedata _ => .err .notEnough p
    | .error => .err .malformed p
    | .ok tok l =>
      let q := p + l
      if !okA tok then .err .mem q else
      match tok with
      | .uint w v => .ok (.uint w v) q
      | .negint w v => .ok (.negint w v) q
      | .bytes o n => .ok (.bytes (slice get (p + o) n)) q
      | .text o n => .ok (.text (slice get (p + o) n)) q
      | .half h => .ok (.half (halfToSingle h)) q
      | .single b => .ok (.single b) q
      | .double b => .ok (.double b) q
      | .bool b => .ok (.simple (if b then 21 else 20)) q
      | .null => .ok (.simple 22) q
      | .undefined => .ok (.simple 23) q
      | .brk => .err .syntax q
      | .tag n =>
        if d ≥ L then .err .mem q else
        match item f q (d + 1) with
        | .ok x r => .ok (.tag n x) r
        | .err e r => .err e r
      | .array n =>
        if n = 0 then .ok (.array []) q else if d ≥ L then .err .mem q else
        match elems f n q (d + 1) [] with
        | .ok xs r => .ok (.array xs) r
        | .err e r => .err e r
      | .arrayStart =>
        if d ≥ L then .err .mem q else
        match elemsI f q (d + 1) [] with
        | .ok xs r => .ok (.arrayI xs) r
        | .err e r => .err e r
      | .map n =>
        if n = 0 then .ok (.map []) q else if d ≥ L then .err .mem q else
        match pairs f n q (d + 1) [] with
        | .ok kvs r => .ok (.map kvs) r
        | .err e r => .err e r
      | .mapStart =>
        if d ≥ L then .err .mem q else
        match pairsI f q (d + 1) [] with
        | .ok kvs r => .ok (.mapI kvs) r
        | .err e r => .err e r
      | .bytesStart =>
        if d ≥ L then .err .mem q else
        match chunks f 2 q (d + 1) [] with
        | .ok cs r => .ok (.bytesI cs) r
        | .err e r => .err e r
      | .textStart =>
        if d ≥ L then .err .mem q else
        match chunks f 3 q (d + 1) [] with
        | .ok cs r => .ok (.textI cs) r
        | .err e r => .err e r

/-- exactly `n` further items -/
def elems : Nat → Nat → Nat → Nat → List Item → Res (List Item)
  | 0, _, p, _, _ => .err .notEnough p
  | _+1, 0, p, _, acc => .ok acc.reverse p
  | f+1, n+1, p, d, acc =>
    match item f p d with
    | .ok x q => elems f n q d (x :: acc)
    | .err e q => .err e q

/-- items up to the closing break -/
def elemsI : Nat → Nat → Nat → List Item → Res (List Item)
  | 0, p, _, _ => .err .notEnough p
  | f+1, p, d, acc =>
    match headAt get len p with
    | .ok .brk l => .ok acc.reverse (p + l)
    | _ =>
      match item f p d with
      | .ok x q => elemsI f q d (x :: acc)
      | .err e q => .err e q

/-- exactly `n` further key/value pairs -/
def pairs : Nat → Nat → Nat → Nat → List (Item × Item) → Res (List (Item × Item))
  | 0, _, p, _, _ => .err .notEnough p
  | _+1, 0, p, _, acc => .ok acc.reverse p
  | f+1, n+1, p, d, acc =>
    match item f p d with
    | .err e q => .err e q
    | .ok k q =>
      match item f q d with
      | .err e r => .err e r
      | .ok v r => pairs f n r d ((k, v) :: acc)

/-- key/value pairs up to a closing break in key position (a break in value position is a syntax error) -/
def pairsI : Nat → Nat → Nat → List (Item × Item) → Res (List (Item × Item))
  | 0, p, _, _ => .err .notEnough p
  | f+1, p, d, acc =>
    match headAt get len p with
    | .ok .brk l => .ok acc.reverse (p + l)
    | _ =>
      match item f p d with
      | .err e q => .err e q
      | .ok k q =>
        match item f q d with
        | .err e r => .err e r
        | .ok v r => pairsI f r d ((k, v) :: acc)

/-- definite chunks of major type `mt` (2 bytes, 3 text) up to the closing break -/
def chunks : Nat → Nat → Nat → Nat → List (List UInt8) → Res (List (List UInt8))
  | 0, _, p, _, _ => .err .notEnough p
  | f+1, mt, p, d, acc =>
    match headAt get len p with
    | .nedata _ => .err .notEnough p
    | .error => .err .malformed p
    | .ok tok l =>
      if !okA tok then .err .mem (p + l) else
      match tok with
      | .brk => .ok acc.reverse (p + l)
      | .bytes o n => if mt = 2 then chunks f mt (p + l) d (slice get (p + o) n :: acc) else .err .syntax (p + l)
      | .text o n => if mt = 3 then chunks f mt (p + l) d (slice get (p + o) n :: acc) else .err .syntax (p + l)
      | tok =>
        if lz && tok.opens then
          match item f p d with
          | .ok _ r => .err .syntax r
          | .err e r => .err e r
        else .err .syntax (p + l)
end

/-- outcome of decoding the first item of a buffer -/
inductive Outcome
  | ok (x : Item) (read : Nat)
  | nodata
  | fail (e : Err) (pos : Nat)
deriving Repr, Inhabited

def decode : Outcome :=
  if len = 0 then .nodata else
  match item lz L okA get len (2 * len + 3) 0 0 with
  | .ok x q => .ok x q
  | .err e p => .fail e p

end Spec
