import Cbor.Spec.Head
/-! Facts about the RFC head reader itself (no reference to the C code).

As the buffer grows the reader answers NEDATA `hl` until the `hl` bytes of the head are there, then NEDATA `l` until
the string payload is there too, then `ok t l` for good; `hl` depends on byte 0 only, `t` and `l` on the first `hl`
bytes only.  Or byte 0 is reserved and the answer is ERROR whatever follows.  `decodeHead_reserved` and
`decodeHead_stair` say this once, and every lemma after them is read off the two. -/
namespace Spec

def Tok.payload : Tok → Option (Nat × Nat)
  | .bytes o l => some (o, l)
  | .text o l => some (o, l)
  | _ => none

theorem beNat_congr (get get' : Nat → UInt8) (off k : Nat)
    (h : ∀ i, off ≤ i → i < off + k → get' i = get i) : beNat get' off k = beNat get off k := by
  induction k generalizing off with
  | zero => rfl
  | succ k ih =>
    simp only [beNat]
    rw [h off (Nat.le_refl _) (by omega), ih (off + 1) (fun i h1 h2 => h i (by omega) (by omega))]

/-- The answers of a head reader `R` on the non-empty buffers that start like `get`: a head of `hl` bytes, which
with its payload makes the token `t` of `l` bytes. -/
structure Stair (R : (Nat → UInt8) → Nat → HeadRes) (get : Nat → UInt8) (hl : Nat) (t : Tok) (l : Nat) : Prop where
  pos : 1 ≤ hl
  le : hl ≤ l
  payload : ∀ o pl, t.payload = some (o, pl) → o = hl ∧ o + pl = l
  head : ∀ get' len, get' 0 = get 0 → 1 ≤ len → len < hl → R get' len = .nedata hl
  body : ∀ get' len, (∀ i, i < hl → get' i = get i) → hl ≤ len → R get' len = if l ≤ len then .ok t l else .nedata l

section shapes
variable {R : (Nat → UInt8) → Nat → HeadRes} {get : Nat → UInt8}

theorem stair_plain (k : Nat) (f : Nat → Tok) (hf : ∀ v, (f v).payload = none)
    (hR : ∀ get' len, get' 0 = get 0 → 1 ≤ len →
      R get' len = if 1 + k ≤ len then .ok (f (beNat get' 1 k)) (1 + k) else .nedata (1 + k)) :
    Stair R get (1 + k) (f (beNat get 1 k)) (1 + k) where
  pos := by omega
  le := Nat.le_refl _
  payload o pl h := by rw [hf] at h; cases h
  head get' len h0 h1 h2 := by rw [hR get' len h0 h1, if_neg (by omega)]
  body get' len hg hl := by
    rw [hR get' len (hg 0 (by omega)) (by omega), beNat_congr get get' 1 k (fun i _ hi => hg i (by omega))]

theorem stair_byte (t : Tok) (ht : t.payload = none) (hR : ∀ get' len, get' 0 = get 0 → 1 ≤ len → R get' len = .ok t 1) :
    Stair R get 1 t 1 :=
  stair_plain 0 (fun _ => t) (fun _ => ht) (fun get' len h0 h1 => by rw [hR get' len h0 h1, if_pos h1])

theorem stair_str (k : Nat) (f : Nat → Nat → Tok) (g : Nat → Nat) (hf : ∀ o v, (f o v).payload = some (o, v))
    (hR : ∀ get' len, get' 0 = get 0 → 1 ≤ len →
      R get' len = if 1 + k ≤ len then
        (if 1 + k + g (beNat get' 1 k) ≤ len then .ok (f (1 + k) (g (beNat get' 1 k))) (1 + k + g (beNat get' 1 k))
         else .nedata (1 + k + g (beNat get' 1 k)))
      else .nedata (1 + k)) :
    Stair R get (1 + k) (f (1 + k) (g (beNat get 1 k))) (1 + k + g (beNat get 1 k)) where
  pos := by omega
  le := by omega
  payload o pl h := by rw [hf] at h; cases h; exact ⟨rfl, rfl⟩
  head get' len h0 h1 h2 := by rw [hR get' len h0 h1, if_neg (by omega)]
  body get' len hg hl := by
    rw [hR get' len (hg 0 (by omega)) (by omega), if_pos hl, beNat_congr get get' 1 k (fun i _ hi => hg i (by omega))]

/-- major types 0..6 once the argument is known to be `g` of the `k` argument bytes -/
theorem stair_arg (mt ai k : Nat) (g : Nat → Nat)
    (hR : ∀ get' len, get' 0 = get 0 → 1 ≤ len →
      R get' len = if 1 + k ≤ len then tokOfArg mt ai (g (beNat get' 1 k)) (1 + k) len else .nedata (1 + k)) :
    ∃ hl t l, Stair R get hl t l := by
  unfold tokOfArg at hR
  split at hR
  · exact ⟨_, _, _, stair_plain k (fun v => .uint (widthOf ai) (g v)) (fun _ => rfl) hR⟩
  · exact ⟨_, _, _, stair_plain k (fun v => .negint (widthOf ai) (g v)) (fun _ => rfl) hR⟩
  · exact ⟨_, _, _, stair_str k .bytes g (fun _ _ => rfl) hR⟩
  · exact ⟨_, _, _, stair_str k .text g (fun _ _ => rfl) hR⟩
  · exact ⟨_, _, _, stair_plain k (fun v => .array (g v)) (fun _ => rfl) hR⟩
  · exact ⟨_, _, _, stair_plain k (fun v => .map (g v)) (fun _ => rfl) hR⟩
  · exact ⟨_, _, _, stair_plain k (fun v => .tag (g v)) (fun _ => rfl) hR⟩

end shapes

/-- the initial bytes outside libcbor's profile: in major type 7 the unassigned simple values, the one-byte-extension
form and the reserved 28..30; elsewhere 28..30 and indefinite length on anything but strings, arrays and maps -/
theorem decodeHead_reserved {get : Nat → UInt8} {len mt ai : Nat} (hl : 1 ≤ len)
    (hmt : (get 0).toNat / 32 = mt) (hai : (get 0).toNat % 32 = ai)
    (h : mt = 7 ∧ (ai < 20 ∨ ai = 24 ∨ 28 ≤ ai) ∧ ai ≠ 31 ∨ mt ≠ 7 ∧ 28 ≤ ai ∧ (ai = 31 → mt < 2 ∨ 5 < mt)) :
    decodeHead get len = .error := by
  rw [decodeHead, if_neg (by omega), hmt, hai]
  rcases h with ⟨h7, h⟩ | ⟨h7, h⟩
  · rw [if_pos h7, decodeMt7]
    repeat rw [if_neg (by omega)]
  · rw [if_neg h7, decodeMtArg, if_neg (by omega), if_neg (by omega), decodeIndef]
    by_cases h31 : ai = 31
    · rw [if_pos h31]
      repeat rw [if_neg (by omega)]
    · exact if_neg h31

theorem decodeHead_stair (get : Nat → UInt8) :
    (∀ get' len, get' 0 = get 0 → 1 ≤ len → decodeHead get' len = .error) ∨ ∃ hl t l, Stair decodeHead get hl t l := by
  have e : ∀ get' len, get' 0 = get 0 → 1 ≤ len → decodeHead get' len =
      if (get 0).toNat / 32 = 7 then decodeMt7 get' len ((get 0).toNat % 32)
      else decodeMtArg get' len ((get 0).toNat / 32) ((get 0).toNat % 32) := by
    intro get' len h0 h1; rw [decodeHead, if_neg (by omega), h0]
  generalize hmt : (get 0).toNat / 32 = mt at e
  generalize hai : (get 0).toNat % 32 = ai at e
  by_cases hres : mt = 7 ∧ (ai < 20 ∨ ai = 24 ∨ 28 ≤ ai) ∧ ai ≠ 31 ∨ mt ≠ 7 ∧ 28 ≤ ai ∧ (ai = 31 → mt < 2 ∨ 5 < mt)
  · exact Or.inl fun get' len h0 h1 => decodeHead_reserved h1 (h0 ▸ hmt) (h0 ▸ hai) hres
  right
  by_cases h7 : mt = 7
  · simp only [h7, if_true, decodeMt7] at e
    -- with `ai` a literal, `e` is the hypothesis of the shape lemma up to evaluating the conditions
    have : ai = 20 ∨ ai = 21 ∨ ai = 22 ∨ ai = 23 ∨ ai = 25 ∨ ai = 26 ∨ ai = 27 ∨ ai = 31 := by omega
    rcases this with rfl | rfl | rfl | rfl | rfl | rfl | rfl | rfl
    · exact ⟨_, _, _, stair_byte (.bool false) rfl e⟩
    · exact ⟨_, _, _, stair_byte (.bool true) rfl e⟩
    · exact ⟨_, _, _, stair_byte .null rfl e⟩
    · exact ⟨_, _, _, stair_byte .undefined rfl e⟩
    · exact ⟨_, _, _, stair_plain 2 .half (fun _ => rfl) e⟩
    · exact ⟨_, _, _, stair_plain 4 .single (fun _ => rfl) e⟩
    · exact ⟨_, _, _, stair_plain 8 .double (fun _ => rfl) e⟩
    · exact ⟨_, _, _, stair_byte .brk rfl e⟩
  · simp only [h7, if_false, decodeMtArg] at e
    by_cases h24 : ai < 24
    · exact stair_arg mt ai 0 (fun _ => ai) (fun g l a b => by rw [e g l a b, if_pos h24, if_pos b])
    by_cases h27 : ai ≤ 27
    · exact stair_arg mt ai (argBytes ai) id (fun g l a b => by rw [e g l a b, if_neg h24, if_pos h27]; rfl)
    simp only [h24, h27, if_false, decodeIndef] at e
    have : ai = 31 ∧ (mt = 2 ∨ mt = 3 ∨ mt = 4 ∨ mt = 5) := by omega
    rcases this with ⟨rfl, rfl | rfl | rfl | rfl⟩
    · exact ⟨_, _, _, stair_byte .bytesStart rfl e⟩
    · exact ⟨_, _, _, stair_byte .textStart rfl e⟩
    · exact ⟨_, _, _, stair_byte .arrayStart rfl e⟩
    · exact ⟨_, _, _, stair_byte .mapStart rfl e⟩

theorem stair_of_ok {get : Nat → UInt8} {len : Nat} {t : Tok} {l : Nat} (h : decodeHead get len = .ok t l) :
    ∃ hl, l ≤ len ∧ Stair decodeHead get hl t l := by
  have h1 : 1 ≤ len := by cases len; cases h; omega
  rcases decodeHead_stair get with he | ⟨hl, t', l', s⟩
  · rw [he get len rfl h1] at h; cases h
  · by_cases hh : len < hl
    · rw [s.head get len rfl h1 hh] at h; cases h
    · rw [s.body get len (fun _ _ => rfl) (by omega)] at h
      split at h <;> cases h
      exact ⟨hl, by omega, s⟩

theorem decodeHead_ok {get : Nat → UInt8} {len : Nat} {t : Tok} {l : Nat} (h : decodeHead get len = .ok t l) :
    1 ≤ l ∧ l ≤ len ∧ (∀ o pl, t.payload = some (o, pl) → 1 ≤ o ∧ o + pl = l) := by
  obtain ⟨k, hlen, s⟩ := stair_of_ok h
  have := s.pos; have := s.le
  exact ⟨by omega, hlen, fun o pl hp => by have := s.payload o pl hp; omega⟩

/-- prefix independence: a complete head is determined by the `l` bytes it occupies -/
theorem decodeHead_prefix {get get' : Nat → UInt8} {len len' : Nat} {t : Tok} {l : Nat}
    (h : decodeHead get len = .ok t l) (hg : ∀ i, i < l → get' i = get i) (hl : l ≤ len') :
    decodeHead get' len' = .ok t l := by
  obtain ⟨k, _, s⟩ := stair_of_ok h
  have := s.le
  rw [s.body get' len' (fun i hi => hg i (by omega)) (by omega), if_pos hl]

/-- a head that is one byte whatever follows is found by evaluating the reader on that byte alone -/
theorem decodeHead_byte {get : Nat → UInt8} {len : Nat} {b : UInt8} {t : Tok} (hb : decodeHead (fun _ => b) 1 = .ok t 1)
    (h0 : get 0 = b) (hl : 1 ≤ len) : decodeHead get len = .ok t 1 :=
  decodeHead_prefix hb (fun i hi => by obtain rfl : i = 0 := by omega
                                       exact h0) hl

theorem decodeHead_cut {get get' : Nat → UInt8} {len len' : Nat} {t : Tok} {l : Nat}
    (h : decodeHead get len = .ok t l) (h2 : len' < l) (hg : ∀ i, i < len' → get' i = get i) :
    ∃ need, decodeHead get' len' = .nedata need := by
  obtain ⟨k, _, s⟩ := stair_of_ok h
  by_cases h0 : len' = 0
  · subst h0; exact ⟨1, rfl⟩
  by_cases hh : len' < k
  · exact ⟨_, s.head get' len' (hg 0 (by omega)) (by omega) hh⟩
  · exact ⟨_, by rw [s.body get' len' (fun i hi => hg i (by omega)) (by omega), if_neg (by omega)]⟩

theorem decodeHead_trunc {get : Nat → UInt8} {len len' : Nat} {t : Tok} {l : Nat}
    (h : decodeHead get len = .ok t l) (h2 : len' < l) : ∃ need, decodeHead get len' = .nedata need :=
  decodeHead_cut h h2 (fun _ _ => rfl)

/-- NEDATA never asks for more than the pending item really occupies -/
theorem decodeHead_need_le {get : Nat → UInt8} {n n' need : Nat} {t : Tok} {l : Nat}
    (h1 : decodeHead get n = .nedata need) (h2 : decodeHead get n' = .ok t l) : need ≤ l := by
  obtain ⟨k, _, s⟩ := stair_of_ok h2
  have := s.pos; have := s.le
  by_cases h0 : n = 0
  · subst h0; cases h1; omega
  by_cases hh : n < k
  · rw [s.head get n rfl (by omega) hh] at h1; cases h1; omega
  · rw [s.body get n (fun _ _ => rfl) (by omega)] at h1
    split at h1 <;> cases h1; omega

theorem decodeHead_nedata {get : Nat → UInt8} {len need : Nat} (h : decodeHead get len = .nedata need) :
    len < need := by
  by_cases h1 : len = 0
  · subst h1; cases h; omega
  rcases decodeHead_stair get with he | ⟨hl, _, _, s⟩
  · rw [he get len rfl (by omega)] at h; cases h
  · by_cases hh : len < hl
    · rw [s.head get len rfl (by omega) hh] at h; cases h; omega
    · rw [s.body get len (fun _ _ => rfl) (by omega)] at h
      split at h <;> cases h
      omega

theorem decodeHead_congr {get get' : Nat → UInt8} {len : Nat} (h : ∀ i, i < len → get' i = get i) :
    decodeHead get' len = decodeHead get len := by
  by_cases h0 : len = 0
  · subst h0; rfl
  have h00 := h 0 (by omega)
  rcases decodeHead_stair get with he | ⟨hl, _, _, s⟩
  · rw [he get len rfl (by omega), he get' len h00 (by omega)]
  · by_cases hh : len < hl
    · rw [s.head get len rfl (by omega) hh, s.head get' len h00 (by omega) hh]
    · rw [s.body get len (fun _ _ => rfl) (by omega), s.body get' len (fun i hi => h i (by omega)) (by omega)]

/-- a reserved / unsupported initial byte is an error whatever follows and however much is buffered -/
theorem decodeHead_error_stable {get : Nat → UInt8} {n n' : Nat} (h : decodeHead get n = .error) (hn : 1 ≤ n') :
    decodeHead get n' = .error := by
  have h1 : 1 ≤ n := by cases n; cases h; omega
  rcases decodeHead_stair get with he | ⟨hl, _, _, s⟩
  · exact he get n' rfl hn
  · by_cases hh : n < hl
    · rw [s.head get n rfl h1 hh] at h; cases h
    · rw [s.body get n (fun _ _ => rfl) (by omega)] at h
      split at h <;> cases h

end Spec
