import Cbor.Spec.Decode
import Cbor.Spec.HeadLemmas
/-! Equations of the reference decoder, valid for either reporting order and any allocation predicate. -/
namespace Spec

def Res.map {α β : Type} (g : α → β) : Res α → Res β
  | .ok a q => .ok (g a) q
  | .err e r => .err e r

variable {lz : Bool} {L : Nat} {okA : AllocOk} {get : Nat → UInt8} {len : Nat}

theorem headAt_ok {p : Nat} {tok : Tok} {l : Nat} (h : headAt get len p = .ok tok l) : 1 ≤ l ∧ p + l ≤ len := by
  have := decodeHead_ok h
  omega

theorem item_succ_head {f p d : Nat} {tok : Tok} {l : Nat} (hh : headAt get len p = .ok tok l) (ha : okA tok = true) :
    item lz L okA get len (f + 1) p d =
      match (generalizing := false) tok with
      | .uint w v => .ok (.uint w v) (p + l)
      | .negint w v => .ok (.negint w v) (p + l)
      | .bytes o n => .ok (.bytes (slice get (p + o) n)) (p + l)
      | .text o n => .ok (.text (slice get (p + o) n)) (p + l)
      | .half h => .ok (.half (halfToSingle h)) (p + l)
      | .single b => .ok (.single b) (p + l)
      | .double b => .ok (.double b) (p + l)
      | .bool b => .ok (.simple (if b then 21 else 20)) (p + l)
      | .null => .ok (.simple 22) (p + l)
      | .undefined => .ok (.simple 23) (p + l)
      | .brk => .err .syntax (p + l)
      | .tag n => if d ≥ L then .err .mem (p + l) else (item lz L okA get len f (p + l) (d + 1)).map (.tag n)
      | .array n =>
        if n = 0 then .ok (.array []) (p + l) else if d ≥ L then .err .mem (p + l) else
        (elems lz L okA get len f n (p + l) (d + 1) []).map .array
      | .arrayStart => if d ≥ L then .err .mem (p + l) else (elemsI lz L okA get len f (p + l) (d + 1) []).map .arrayI
      | .map n =>
        if n = 0 then .ok (.map []) (p + l) else if d ≥ L then .err .mem (p + l) else
        (pairs lz L okA get len f n (p + l) (d + 1) []).map .map
      | .mapStart => if d ≥ L then .err .mem (p + l) else (pairsI lz L okA get len f (p + l) (d + 1) []).map .mapI
      | .bytesStart => if d ≥ L then .err .mem (p + l) else (chunks lz L okA get len f 2 (p + l) (d + 1) []).map .bytesI
      | .textStart => if d ≥ L then .err .mem (p + l) else (chunks lz L okA get len f 3 (p + l) (d + 1) []).map .textI := by
  simp only [item, hh, ha, Bool.not_true, Bool.false_eq_true, if_false]
  cases tok <;> simp only [] <;> repeat' split
  all_goals simp only [*, Res.map]

theorem chunks_succ_head {f mt p d : Nat} {acc : List (List UInt8)} {tok : Tok} {l : Nat}
    (hh : headAt get len p = .ok tok l) (ha : okA tok = true) :
    chunks lz L okA get len (f + 1) mt p d acc =
      match (generalizing := false) tok with
      | .brk => .ok acc.reverse (p + l)
      | .bytes o n => if mt = 2 then chunks lz L okA get len f mt (p + l) d (slice get (p + o) n :: acc) else .err .syntax (p + l)
      | .text o n => if mt = 3 then chunks lz L okA get len f mt (p + l) d (slice get (p + o) n :: acc) else .err .syntax (p + l)
      | tok =>
        if lz && tok.opens then
          match item lz L okA get len f p d with
          | .ok _ r => .err .syntax r
          | .err e r => .err e r
        else .err .syntax (p + l) := by
  simp only [chunks, hh, ha, Bool.not_true, Bool.false_eq_true, if_false]
  cases tok <;> rfl

theorem item_ok_not_brk {f p d : Nat} {x : Item} {q : Nat} (h : item lz L okA get len f p d = .ok x q) (l : Nat) :
    headAt get len p ≠ .ok .brk l := by
  intro hb
  cases f with
  | zero => rw [item] at h; cases h
  | succ f =>
    cases ha : okA .brk with
    | true => rw [item_succ_head hb ha] at h; cases h
    | false => simp [item, hb, ha] at h

theorem elemsI_succ {f p d : Nat} {acc : List Item} (h : ∀ l, headAt get len p ≠ .ok .brk l) :
    elemsI lz L okA get len (f + 1) p d acc =
      match item lz L okA get len f p d with
      | .ok x q => elemsI lz L okA get len f q d (x :: acc)
      | .err e q => .err e q := by
  conv => lhs; unfold elemsI
  split
  · rename_i l hb; exact absurd hb (h l)
  · rfl

theorem pairsI_succ {f p d : Nat} {acc : List (Item × Item)} (h : ∀ l, headAt get len p ≠ .ok .brk l) :
    pairsI lz L okA get len (f + 1) p d acc =
      match item lz L okA get len f p d with
      | .err e q => .err e q
      | .ok k q =>
        match item lz L okA get len f q d with
        | .err e r => .err e r
        | .ok v r => pairsI lz L okA get len f r d ((k, v) :: acc) := by
  conv => lhs; unfold pairsI
  split
  · rename_i l hb; exact absurd hb (h l)
  · rfl

end Spec
