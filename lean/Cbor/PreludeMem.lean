/-!
C-semantics helper used by the generated leaf serializers (`Cbor.Gen.Serializers`): `memcpy`.
Hand-written, tiny, part of the trusted reading of Mini-C.
-/
namespace C
/-- `memcpy(dst + doff, src + soff, n)` for two *different* objects: `dst` after the bytes `src[soff], …, src[soff+n-1]` were stored at
`dst[doff], …, dst[doff+n-1]` (the translator puts `doff + n ≤ dst.size` and `soff + n ≤ src.size` into `.ok`; absent source bytes read as 0
and stores outside `dst` are dropped, so the function is total). -/
def copyBytes (dst : Array UInt8) (doff : Nat) (src : Array UInt8) (soff : Nat) : Nat → Array UInt8
  | 0 => dst
  | n+1 => copyBytes (dst.setIfInBounds doff (src.getD soff 0)) (doff + 1) src (soff + 1) n
end C
