import Cbor.Lemmas.Half
import Cbor.Lemmas.HalfSpec
/-!
Decoding a binary16 pattern and encoding the result with the generated `cbor_encode_half` gives the pattern back.
Normal numbers go through the last branch of the C function (`halfRes_normal`).  Zeros, subnormals, infinities and
NaNs go through its branches with variable shifts and rounding: these 4096 patterns are run through the generated
text by the kernel, whatever shape the translator gives it.
-/
namespace Lemmas
open Spec Spec.Float

/-- `p k` for every `k < n`, by structural recursion on `n` so that the kernel can run it -/
def allBelow (p : Nat → Bool) : Nat → Bool
  | 0 => true
  | n+1 => p n && allBelow p n

theorem allBelow_iff (p : Nat → Bool) (n : Nat) : allBelow p n = true ↔ ∀ k, k < n → p k = true := by
  induction n with
  | zero => simp [allBelow]
  | succ n ih =>
    simp only [allBelow, Bool.and_eq_true, ih]
    constructor
    · rintro ⟨hn, hlt⟩ k hk
      rcases Nat.lt_succ_iff_lt_or_eq.mp hk with h | rfl
      · exact hlt k h
      · exact hn
    · exact fun h => ⟨h n (Nat.lt_succ_self n), fun k hk => h k (Nat.lt_succ_of_lt hk)⟩

/-- the `k`-th of the 4096 binary16 patterns with exponent field 0 or 31: zeros, subnormals, infinities, NaNs -/
def specialHalf (k : Nat) : Nat := k / 2048 * 32768 + k / 1024 % 2 * 31744 + k % 1024

theorem reencode_special :
    allBelow (fun k => (halfRes (Ext.decodeHalfBits (specialHalf k))).toNat == canonHalf (specialHalf k)) 4096 = true := by
  decide +kernel

theorem halfRes_special (k : Nat) (hk : k < 4096) :
    (halfRes (Ext.decodeHalfBits (specialHalf k))).toNat = canonHalf (specialHalf k) :=
  eq_of_beq ((allBelow_iff _ _).mp reencode_special k hk)

theorem specialHalf_fields (s ex mant : Nat) (hs : s < 2) (hex : ex = 0 ∨ ex = 31) (hm : mant < 1024) :
    ∃ k, k < 4096 ∧ specialHalf k = s * 2 ^ 15 + ex * 2 ^ 10 + mant :=
  ⟨s * 2048 + ex / 31 * 1024 + mant, by omega, by unfold specialHalf; omega⟩

/-- **Decoding a half and encoding it again reproduces the pattern** (the canonical quiet NaN for a NaN) -/
theorem halfRes_decode (h : Nat) (hh : h < 65536) :
    (halfRes (Ext.decodeHalfBits h)).toNat = Spec.Float.canonHalf h := by
  obtain ⟨s, ex, mant, hs, hex, hm, rfl⟩ := half_fields h hh
  by_cases hn : ex = 0 ∨ ex = 31
  · obtain ⟨k, hk, hi⟩ := specialHalf_fields s ex mant hs hn hm
    rw [← hi]
    exact halfRes_special k hk
  · obtain ⟨e, f, he, hf, hb, hc⟩ := halfToSingle_fields s ex mant hs hex hm
    rcases hc with ⟨h0, _⟩ | ⟨h0, _⟩ | ⟨h0, h31, rfl, hsum⟩ | ⟨h31, _⟩ | ⟨h31, _⟩
    · exact absurd (Or.inl h0) hn
    · exact absurd (Or.inl h0) hn
    · rw [canonHalf_fields _ s ex mant hex hm rfl, if_neg (fun h => h31 h.1)]
      apply halfRes_normal _ s ex mant hs (by omega) (by omega) hm
      rw [decodeHalf_spec, hb]
      omega
    · exact absurd (Or.inr h31) hn
    · exact absurd (Or.inr h31) hn

end Lemmas
