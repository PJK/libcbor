import Cbor.Model.Abs
import Cbor.Spec.DecodeLemmas
/-!
# Locality of the stack machine: a run only depends on the bytes it has consumed

`run_local` compares a run that completes an item with the run over another buffer that agrees with the first on the
bytes the item occupies, as far as it has them: the same item if it has them all (C14: items decode independently
of what follows), else NOTENOUGHDATA at a head boundary, never a hard error (the prefix clause of C05).
-/
namespace Lemmas.Local
open Spec Abs

variable {L : Nat} {okA : AllocOk}

theorem stepTok_local {get get' : Nat → UInt8} {len p : Nat} {tok : Tok} {l : Nat} (s : List Frame)
    (hh : headAt get len p = .ok tok l) (hg : ∀ i, i < p + l → get' i = get i) :
    stepTok L okA get' p tok s = stepTok L okA get p tok s := by
  have hsl : ∀ o n, tok.payload = some (o, n) → slice get' (p + o) n = slice get (p + o) n := by
    intro o n hp
    have := (decodeHead_ok hh).2.2 o n hp
    exact List.map_congr_left fun i hi => hg (p + o + i) (by have := List.mem_range.mp hi; omega)
  cases tok <;> simp only [stepTok]
  · rw [hsl _ _ rfl]
  · rw [hsl _ _ rfl]

theorem run_ok_bounds {get : Nat → UInt8} {len F : Nat} {s : List Frame} {p : Nat} {x : Item} {q : Nat}
    (h : run L okA get len F s p = .ok x q) : p < q ∧ q ≤ len := by
  induction F generalizing s p with
  | zero => simp [run] at h
  | succ F ih =>
    rw [run_succ] at h
    cases hh : headAt get len p with
    | nedata n => rw [hh] at h; cases h
    | error => rw [hh] at h; cases h
    | ok tok l =>
      rw [hh] at h
      have hl := headAt_ok hh
      simp only at h
      cases hst : stepTok L okA get p tok s with
      | cont s' => rw [hst] at h; simp only [resume] at h; have := ih h; omega
      | done y => rw [hst] at h; simp only [resume] at h; cases h; omega
      | syn => rw [hst] at h; simp [resume] at h
      | mem => rw [hst] at h; simp [resume] at h

/-- **Locality.**  A run over `(get, len)` completes an item at offset `q`; `(get', len')` agrees with it on the
first `q` bytes as far as it has them.  If it has them all the run over it completes the same item at `q`; if not
it stops with NOTENOUGHDATA at the start of the first head that is incomplete or missing. -/
theorem run_local {get get' : Nat → UInt8} {len len' : Nat} : ∀ (F F' : Nat) (s : List Frame) (p : Nat) (x : Item) (q : Nat),
    run L okA get len F s p = .ok x q → (∀ i, i < q → i < len' → get' i = get i) → F' > len' - p → p ≤ len' →
    (q ≤ len' → run L okA get' len' F' s p = .ok x q) ∧
    (len' < q → ∃ p', run L okA get' len' F' s p = .err .notEnough p' ∧ p ≤ p' ∧ p' ≤ len' ∧
      ∃ need, headAt get' len' p' = .nedata need) := by
  intro F
  induction F with
  | zero => intro F' s p x q h; simp [run] at h
  | succ F ih =>
    intro F' s p x q h hg hF' hple
    obtain ⟨F', rfl⟩ : ∃ k, F' = k + 1 := ⟨F' - 1, by omega⟩
    rw [run_succ] at h
    cases hh : headAt get len p with
    | nedata n => rw [hh] at h; cases h
    | error => rw [hh] at h; cases h
    | ok tok l =>
      rw [hh] at h
      have hl := headAt_ok hh
      simp only at h
      have hpl : p + l ≤ q := by
        cases hst : stepTok L okA get p tok s with
        | cont s' => rw [hst] at h; have := run_ok_bounds h; omega
        | done y => rw [hst] at h; cases h; omega
        | syn => rw [hst] at h; cases h
        | mem => rw [hst] at h; cases h
      by_cases hfit : p + l ≤ len'
      · -- the head is complete in the other buffer too: same token, same step
        have hh' : headAt get' len' p = .ok tok l :=
          decodeHead_prefix hh (fun i hi => hg (p + i) (by omega) (by omega)) (by omega)
        simp only [run_succ, hh', stepTok_local s hh (fun i hi => hg i (by omega) (by omega))]
        cases hst : stepTok L okA get p tok s with
        | cont s' =>
          rw [hst] at h
          refine (ih F' s' (p + l) x q h hg (by omega) hfit).imp id fun h2 hq => ?_
          obtain ⟨p', e1, e2, e3, e4⟩ := h2 hq
          exact ⟨p', e1, by omega, e3, e4⟩
        | done y => rw [hst] at h; cases h; exact ⟨fun _ => rfl, fun hq => by omega⟩
        | syn => rw [hst] at h; cases h
        | mem => rw [hst] at h; cases h
      · -- the other buffer ends inside this head or its payload
        obtain ⟨need, hn⟩ : ∃ need, headAt get' len' p = .nedata need :=
          decodeHead_cut hh (by omega) (fun i hi => hg (p + i) (by omega) (by omega))
        exact ⟨fun hq => by omega, fun _ => ⟨p, by rw [run_succ, hn], Nat.le_refl _, hple, need, hn⟩⟩

/-- **Suffix independence.**  If a run over `(get, len)` completes an item at offset `q`, the run over any
buffer that agrees on the first `q` bytes (and is at least that long) completes the same item at `q`. -/
theorem run_suffix {get get' : Nat → UInt8} {len len' : Nat} (F F' : Nat) (s : List Frame) (p : Nat) (x : Item) (q : Nat)
    (h : run L okA get len F s p = .ok x q) (hg : ∀ i, i < q → get' i = get i) (hq : q ≤ len') (hF' : F' > len' - p) :
    run L okA get' len' F' s p = .ok x q :=
  (run_local F F' s p x q h (fun i hi _ => hg i hi) hF' (by have := run_ok_bounds h; omega)).1 hq

/-- **Truncation.**  If a run over `len` bytes completes an item at offset `q`, then over the first `len' < q`
bytes of the same buffer the run stops with NOTENOUGHDATA at an offset `p'` that is the start of the first
head that is incomplete or missing — never with a hard error. -/
theorem run_trunc {get : Nat → UInt8} {len len' : Nat} (F F' : Nat) (s : List Frame) (p : Nat) (x : Item) (q : Nat)
    (h : run L okA get len F s p = .ok x q) (hq : len' < q) (hF' : F' > len' - p) (hp : p ≤ len') :
    ∃ p', run L okA get len' F' s p = .err .notEnough p' ∧ p ≤ p' ∧ p' ≤ len' ∧
          (∃ need, headAt get len' p' = .nedata need) :=
  (run_local F F' s p x q h (fun _ _ _ => rfl) hF' hp).2 hq

theorem run_congr {get get' : Nat → UInt8} {len : Nat} (hg : ∀ i, i < len → get' i = get i) :
    ∀ (F : Nat) (s : List Frame) (p : Nat), run L okA get' len F s p = run L okA get len F s p := by
  intro F
  induction F with
  | zero => intro s p; rfl
  | succ F ih =>
    intro s p
    rw [run_succ, run_succ]
    have hhead : headAt get' len p = headAt get len p := by
      unfold headAt
      exact decodeHead_congr (fun i hi => hg (p + i) (by omega))
    rw [hhead]
    cases hh : headAt get len p with
    | nedata n => rfl
    | error => rfl
    | ok tok l =>
      have hl := headAt_ok hh
      simp only
      rw [stepTok_local s hh (fun i hi => hg i (by omega))]
      cases stepTok L okA get p tok s with
      | cont s' => simp only [resume]; exact ih s' (p + l)
      | done y => rfl
      | syn => rfl
      | mem => rfl

end Lemmas.Local
