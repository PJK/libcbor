import Cbor.Props.HeapLoad
import Cbor.Props.C11
/-!
# The operations a client performs on a decoded tree (last clause of C01)

`Heap.own_acyclic`: an acyclic heap with an exclusively owned tree laid out on top of it is acyclic (through `Ranked`).
`Props.C01.C01_client_ops`: after a successful `cbor_load` the result reads back as the decoded tree, `cbor_copy` of it
yields an exclusively owned equal tree or nothing at all, and releasing the copy and the decoded tree in either order
restores the heap that existed before the load.
-/
namespace Heap
open Spec (Item)

/-- the cells `lo … hi-1` refer to cells `lo … hi-1` only, and some rank (bounded by the number of cells) strictly
decreases along every such reference -/
def Ranked (h : H) (lo hi : Nat) : Prop :=
  ∃ rk : Nat → Nat, ∀ r, lo ≤ r → r < hi → rk r ≤ hi - lo ∧
    ∀ c, h.get r = some c → ∀ x : Nat, x ∈ c.node.children → lo ≤ x ∧ x < hi ∧ rk x < rk r

theorem Ranked.empty (h : H) (lo : Nat) : Ranked h lo lo := ⟨fun _ => 0, fun r h1 h2 => by omega⟩

theorem Ranked.append {h : H} {lo mid hi : Nat} (a : Ranked h lo mid) (b : Ranked h mid hi) (h1 : lo ≤ mid) (h2 : mid ≤ hi) :
    Ranked h lo hi := by
  obtain ⟨rk1, a⟩ := a
  obtain ⟨rk2, b⟩ := b
  refine ⟨fun r => if r < mid then rk1 r else rk2 r, fun r hr1 hr2 => ?_⟩
  dsimp only
  by_cases hm : r < mid
  · obtain ⟨a1, a2⟩ := a r hr1 hm
    refine ⟨by rw [if_pos hm]; omega, fun c hg x hx => ?_⟩
    obtain ⟨x1, x2, x3⟩ := a2 c hg x hx
    refine ⟨x1, by omega, ?_⟩
    rw [if_pos hm, if_pos x2]; exact x3
  · obtain ⟨b1, b2⟩ := b r (by omega) hr2
    refine ⟨by rw [if_neg hm]; omega, fun c hg x hx => ?_⟩
    obtain ⟨x1, x2, x3⟩ := b2 c hg x hx
    have hx' : ¬ x < mid := by omega
    refine ⟨by omega, x2, ?_⟩
    rw [if_neg hm, if_neg hx']; exact x3

theorem Ranked.node {h : H} {y lo hi lo' hi' : Nat} (ha : Around y lo hi lo' hi') (hle : lo' ≤ hi') (a : Ranked h lo' hi')
    (hch : ∀ c, h.get y = some c → ∀ x : Nat, x ∈ c.node.children → lo' ≤ x ∧ x < hi') : Ranked h lo hi := by
  obtain ⟨rk, a⟩ := a
  unfold Around at ha
  refine ⟨fun r => if r = y then hi - lo else rk r, fun r hr1 hr2 => ?_⟩
  dsimp only
  by_cases hy : r = y
  · subst hy
    refine ⟨by rw [if_pos rfl]; omega, fun c hg x hx => ?_⟩
    obtain ⟨x1, x2⟩ := hch c hg x hx
    have hne : x ≠ r := by omega
    have := (a x x1 x2).1
    refine ⟨by omega, by omega, ?_⟩
    rw [if_neg hne, if_pos rfl]
    omega
  · have hr1' : lo' ≤ r := by omega
    have hr2' : r < hi' := by omega
    obtain ⟨a1, a2⟩ := a r hr1' hr2'
    refine ⟨by rw [if_neg hy]; omega, fun c hg x hx => ?_⟩
    obtain ⟨x1, x2, x3⟩ := a2 c hg x hx
    have hne : x ≠ y := by omega
    refine ⟨by omega, by omega, ?_⟩
    rw [if_neg hy, if_neg hne]; exact x3

theorem own_ranked_both {h : H} :
    (∀ t y lo hi, Own t h y lo hi → Ranked h lo hi) ∧
    ∀ ts xs lo hi, OwnList ts h xs lo hi → Ranked h lo hi ∧ ∀ x : Nat, x ∈ xs → lo ≤ x ∧ x < hi := by
  refine own_ind ?_ (fun lo => ⟨Ranked.empty h lo, fun x hx => by cases hx⟩) ?_
  · intro t y lo hi n lo' hi' hg ha hc _ hq
    refine Ranked.node ha (ownList_le hc) hq.1 (fun c hg' x hx => ?_)
    rw [hg] at hg'; cases hg'
    exact hq.2 x hx
  · intro t ts x xs lo mid hi h1 h2 hp hq
    have b1 := own_lt h1
    have b2 := ownList_le h2
    refine ⟨hp.append hq.1 (by omega) b2, fun z hz => ?_⟩
    rcases List.mem_cons.mp hz with e | e
    · subst e; omega
    · have := hq.2 z e; omega

theorem own_ranked {h : H} (t : Item) (y lo hi : Nat) (ho : Own t h y lo hi) : Ranked h lo hi :=
  own_ranked_both.1 t y lo hi ho

theorem ownList_ranked {h : H} : ∀ (ts : List Item) (xs : List Ref) (lo hi : Nat), OwnList ts h xs lo hi →
    Ranked h lo hi ∧ ∀ x : Nat, x ∈ xs → lo ≤ x ∧ x < hi :=
  own_ranked_both.2

theorem ownPairs_ranked {h : H} : ∀ (ps : List (Item × Item)) (rs : List (Ref × Ref)) (lo hi : Nat), OwnPairs ps h rs lo hi →
    Ranked h lo hi ∧ ∀ x : Nat, x ∈ (rs.flatMap fun kv => [kv.1, kv.2]) → lo ≤ x ∧ x < hi :=
  fun ps rs lo hi ho => ownList_ranked _ _ lo hi ((ownPairs_iff ps rs lo hi).mp ho)

/-- If the cells below `N` of `h` are those of an acyclic heap `h0` and the cells from `N`
on are exactly the cells of an exclusively owned tree, then `h` is acyclic.  (Old cells are not even required to refer to
old cells only: the cells of the tree refer to cells of the tree, so nothing leads back from the tree to an old cell.) -/
theorem own_acyclic {h0 h : H} {N : Nat} {t : Item} {y : Nat} (hac : Props.C11.Acyclic h0) (hold : ∀ r : Nat, r < N → h.get r = h0.get r)
    (ho : Own t h y N h.cells.length) : Props.C11.Acyclic h := by
  obtain ⟨rk0, h0r⟩ := hac
  obtain ⟨rk1, h1r⟩ := own_ranked t y N h.cells.length ho
  refine ⟨fun r => if r < N then rk0 r + (h.cells.length - N) + 1 else min (rk1 r) (h.cells.length - N),
    fun (r : Nat) c hg (x : Nat) hx => ?_⟩
  dsimp only
  by_cases hr : r < N
  · rw [hold r hr] at hg
    have := h0r r c hg x hx
    rw [if_pos hr]
    by_cases hxN : x < N
    · rw [if_pos hxN]; omega
    · rw [if_neg hxN]; omega
  · have hlt : r < h.cells.length := get_lt hg
    obtain ⟨r1, r2⟩ := h1r r (by omega) hlt
    obtain ⟨x1, x2, x3⟩ := r2 c hg x hx
    have hxN : ¬ x < N := by omega
    rw [if_neg hr, if_neg hxN]; omega

theorem own_closed {h0 h : H} {N : Nat} {t : Item} {y : Nat} (hold : ∀ r : Nat, r < N → h.get r = h0.get r)
    (hcl : Closed N h0) (ho : Own t h y N h.cells.length) : Closed h.cells.length h := by
  have hb := own_lt ho
  obtain ⟨rk1, h1r⟩ := own_ranked t y N h.cells.length ho
  intro (r : Nat) c hlt hg (x : Nat) hx
  by_cases hr : r < N
  · rw [hold r hr] at hg
    exact Nat.lt_trans (hcl r c hr hg x hx) hb.1
  · exact ((h1r r (by omega) hlt).2 c hg x hx).2.1

theorem release_reads {h h1 X : H} {t : Item} {y : Nat} (hold : ∀ r : Nat, r < h.cells.length → h1.get r = h.get r)
    (ho : Own t h1 y h.cells.length h1.cells.length) (hX : ∀ r : Nat, X.get r = h1.get r) :
    (X.decref y).fault = X.fault ∧ ∀ r : Nat, (X.decref y).get r = h.get r := by
  have hb := own_lt ho
  have hoX : Own t X y h.cells.length h1.cells.length := own_congr (fun r _ _ => hX r) ho
  have hlen : h1.cells.length ≤ X.cells.length := by
    obtain ⟨c, hg, _⟩ := own_all_one hoX (h1.cells.length - 1) (by omega) (by omega)
    have : h1.cells.length - 1 < X.cells.length := get_lt hg
    omega
  exact (hdecref_own hoX hlen).restores (fun r hr => (hX r).trans (hold r hr)) (fun r hr => (hX r).trans (get_none_of_ge h1 r hr))

theorem release_lower_first {h h1 h2 : H} {t t' : Item} {y y' : Nat} (hold : ∀ r : Nat, r < h.cells.length → h1.get r = h.get r)
    (ho : Own t h1 y h.cells.length h1.cells.length) (hold2 : ∀ r : Nat, r < h1.cells.length → h2.get r = h1.get r)
    (ho2 : Own t' h2 y' h1.cells.length h2.cells.length) :
    ((h2.decref y).decref y').fault = h2.fault ∧ ∀ r : Nat, ((h2.decref y).decref y').get r = h.get r := by
  have hb := own_lt ho
  have hb2 := own_lt ho2
  have ho' : Own t h2 y h.cells.length h1.cells.length := own_congr (fun r _ hr => hold2 r hr) ho
  have hf := (hdecref_own ho' (by omega)).then_release ho2 (Nat.le_refl _) (by omega)
  exact hf.restores (fun r hr => (hold2 r (by omega)).trans (hold r hr)) (get_none_of_ge h2)

end Heap

namespace Props.C01
open Heap Props.C11

theorem loaded (ω : Oracle) (L : Nat) (h : H) (r0 : Model.LoadResult) (src : Array UInt8) (hsz : src.size < 2 ^ 64 - 1)
    (t : Spec.Item) (ht : (Model.load (fun i _ => ω (h.reqs + i)) L r0 src).item = some t)
    (y : Ref) (res : Model.LoadResult) (h1 : H) (hl : HB.load ω L h src = (some y, res, h1)) :
    h1.fault = h.fault ∧ (∀ r : Nat, r < h.cells.length → h1.get r = h.get r) ∧ Own t h1 y h.cells.length h1.cells.length := by
  have hr := HB.hload_refines' ω L h r0 src hsz
  obtain ⟨y', hy, ho⟩ := hr.granted ht
  have h3 := hr.fault
  have h4 := hr.old
  simp only [hl] at hy ho h3 h4
  cases hy
  exact ⟨h3, h4, ho⟩

/-- C01: after a successful load into an acyclic heap the result denotes the
decoded tree `t`, the heap is still acyclic, and the executable read-back `H.val` (the walk `cbor_describe`,
`cbor_serialized_size` and `cbor_serialize` perform) returns exactly `t` — so their results are `Model.size t`,
`Model.serialize t …`, whose theorems are C07 / C03. -/
theorem C01_loaded_val (ω : Oracle) (L : Nat) (h : H) (r0 : Model.LoadResult) (src : Array UInt8) (hsz : src.size < 2 ^ 64 - 1)
    (hac : Acyclic h) (t : Spec.Item) (ht : (Model.load (fun i _ => ω (h.reqs + i)) L r0 src).item = some t)
    (y : Ref) (res : Model.LoadResult) (h1 : H) (hl : HB.load ω L h src = (some y, res, h1)) :
    Den t h1 y ∧ h1.val y = some t ∧ Acyclic h1 := by
  obtain ⟨_, h4, ho⟩ := loaded ω L h r0 src hsz t ht y res h1 hl
  have hac1 : Acyclic h1 := own_acyclic hac h4 ho
  have hd := own_den t y _ _ ho
  exact ⟨hd, hval_of_den h1 hac1 t y hd, hac1⟩

/-- C01, copy of a decoded tree, for every allocator oracle: no fault, no cell of the heap changes, and the outcome is either an
exclusively owned tree for the same `t` in exactly the new cells, or nothing (the heap reads as before the call). -/
theorem C01_copy_loaded (ω : Oracle) (L : Nat) (h : H) (r0 : Model.LoadResult) (src : Array UInt8) (hsz : src.size < 2 ^ 64 - 1)
    (hac : Acyclic h) (t : Spec.Item) (ht : (Model.load (fun i _ => ω (h.reqs + i)) L r0 src).item = some t)
    (y : Ref) (res : Model.LoadResult) (h1 : H) (hl : HB.load ω L h src = (some y, res, h1)) (ω' : Oracle) :
    (h1.copy ω' y).2.fault = h.fault ∧
    (∀ r : Nat, r < h1.cells.length → (h1.copy ω' y).2.get r = h1.get r) ∧
    match (h1.copy ω' y).1 with
    | some y' => Own t (h1.copy ω' y).2 y' h1.cells.length (h1.copy ω' y).2.cells.length
    | none => ∀ r : Nat, (h1.copy ω' y).2.get r = h1.get r := by
  obtain ⟨h3, _, _⟩ := loaded ω L h r0 src hsz t ht y res h1 hl
  obtain ⟨hd, _, hac1⟩ := C01_loaded_val ω L h r0 src hsz hac t ht y res h1 hl
  obtain ⟨c1, c2, c3⟩ := C11_copy ω' h1 t y hd hac1
  exact ⟨c1.trans h3, c2, c3⟩

/-- C01: the copy and the decoded tree can be released in either order; both orders end in a heap that reads exactly as
the heap before the load, with its fault flag (no use after release, no double release) and its number of live blocks. -/
theorem C01_release_both (ω : Oracle) (L : Nat) (h : H) (r0 : Model.LoadResult) (src : Array UInt8) (hsz : src.size < 2 ^ 64 - 1)
    (hac : Acyclic h) (t : Spec.Item) (ht : (Model.load (fun i _ => ω (h.reqs + i)) L r0 src).item = some t)
    (y : Ref) (res : Model.LoadResult) (h1 : H) (hl : HB.load ω L h src = (some y, res, h1)) (ω' : Oracle)
    (y' : Ref) (h2 : H) (hc : h1.copy ω' y = (some y', h2)) :
    (((h2.decref y').decref y).fault = h.fault ∧ ∀ r : Nat, ((h2.decref y').decref y).get r = h.get r) ∧
    (((h2.decref y).decref y').fault = h.fault ∧ ∀ r : Nat, ((h2.decref y).decref y').get r = h.get r) ∧
    ((h2.decref y').decref y).liveBlocks = h.liveBlocks ∧ ((h2.decref y).decref y').liveBlocks = h.liveBlocks := by
  obtain ⟨h3, h4, ho⟩ := loaded ω L h r0 src hsz t ht y res h1 hl
  obtain ⟨hd, _, hac1⟩ := C01_loaded_val ω L h r0 src hsz hac t ht y res h1 hl
  have hcp := C01_copy_loaded ω L h r0 src hsz hac t ht y res h1 hl ω'
  have hrc := C11_release_copy ω' h1 t y hd hac1 y' (by rw [hc])
  simp only [hc] at hcp hrc
  obtain ⟨c1, c2, c3⟩ := hcp
  have hA := release_reads h4 ho hrc.2
  have hB := release_lower_first h4 ho c2 c3
  exact ⟨⟨hA.1.trans (hrc.1.trans h3), hA.2⟩, ⟨hB.1.trans c1, hB.2⟩, liveBlocks_of_get_eq hA.2, liveBlocks_of_get_eq hB.2⟩

/-- C01, last clause.  Let `h` be any acyclic heap and let `cbor_load`
succeed on it (for any buffer a C caller can pass, any nesting limit, any allocator oracle) with the item `y`, in heap `h1`,
for the tree `t` of the value-level model.  Then
* `y` denotes `t` and the read-back walk returns `t` (describe / size / serialize are functions of `t`: C07, C03);
* for every allocator oracle `cbor_copy y` raises no fault, changes no cell of `h1`, and either returns an exclusively owned
  tree for `t` in exactly the new cells, or returns NULL with the heap reading as `h1` — and then releasing `y` restores `h`;
* after a successful copy, releasing the copy and the decoded tree in either order ends in a heap that reads exactly as `h`,
  with `h`'s fault flag: nothing is used after release, released twice, or left behind. -/
theorem C01_client_ops (ω : Oracle) (L : Nat) (h : H) (r0 : Model.LoadResult) (src : Array UInt8) (hsz : src.size < 2 ^ 64 - 1)
    (hac : Acyclic h) (t : Spec.Item) (ht : (Model.load (fun i _ => ω (h.reqs + i)) L r0 src).item = some t)
    (y : Ref) (res : Model.LoadResult) (h1 : H) (hl : HB.load ω L h src = (some y, res, h1)) :
    (Den t h1 y ∧ h1.val y = some t) ∧
    ((h1.decref y).fault = h.fault ∧ ∀ r : Nat, (h1.decref y).get r = h.get r) ∧
    ∀ ω' : Oracle,
      (h1.copy ω' y).2.fault = h.fault ∧
      (∀ r : Nat, r < h1.cells.length → (h1.copy ω' y).2.get r = h1.get r) ∧
      match (h1.copy ω' y).1 with
      | some y' =>
        Own t (h1.copy ω' y).2 y' h1.cells.length (h1.copy ω' y).2.cells.length ∧
        ((((h1.copy ω' y).2.decref y').decref y).fault = h.fault ∧ ∀ r : Nat, (((h1.copy ω' y).2.decref y').decref y).get r = h.get r) ∧
        ((((h1.copy ω' y).2.decref y).decref y').fault = h.fault ∧ ∀ r : Nat, (((h1.copy ω' y).2.decref y).decref y').get r = h.get r)
      | none =>
        (∀ r : Nat, (h1.copy ω' y).2.get r = h1.get r) ∧
        (((h1.copy ω' y).2.decref y).fault = h.fault ∧ ∀ r : Nat, ((h1.copy ω' y).2.decref y).get r = h.get r) := by
  obtain ⟨h3, h4, ho⟩ := loaded ω L h r0 src hsz t ht y res h1 hl
  obtain ⟨hd, hv, _⟩ := C01_loaded_val ω L h r0 src hsz hac t ht y res h1 hl
  have hR := release_reads (X := h1) h4 ho (fun _ => rfl)
  refine ⟨⟨hd, hv⟩, ⟨hR.1.trans h3, hR.2⟩, fun ω' => ?_⟩
  obtain ⟨c1, c2, c3⟩ := C01_copy_loaded ω L h r0 src hsz hac t ht y res h1 hl ω'
  refine ⟨c1, c2, ?_⟩
  cases hc : h1.copy ω' y with
  | mk o h2 =>
    cases o with
    | some y' =>
      simp only [hc] at c3 ⊢
      obtain ⟨rA, rB, _⟩ := C01_release_both ω L h r0 src hsz hac t ht y res h1 hl ω' y' h2 hc
      exact ⟨c3, rA, rB⟩
    | none =>
      simp only [hc] at c1 c3 ⊢
      have hN := release_reads h4 ho c3
      exact ⟨c3, hN.1.trans c1, hN.2⟩

/-! non-vacuity: the hypotheses of `C01_client_ops` are satisfiable — the buffer `82 01 9f 02 ff` (`[1, [_ 2]]`), the empty
heap, the all-granting oracle, nesting limit 100 — and there the copy succeeds as well (so the `some` branch is inhabited);
with an oracle refusing the second request of the copy the `none` branch is. -/
/-- the value-level model decodes `82 01 9f 02 ff` to `[1, [_ 2]]` (kernel-evaluated) -/
theorem example_tree :
    (Model.load (fun i _ => (fun _ => true : Oracle) (({} : H).reqs + i)) 100 { code := .none, position := 0, read := 0 }
      #[0x82, 0x01, 0x9f, 0x02, 0xff]).item = some (.array [.uint .w8 1, .arrayI [.uint .w8 2]]) := by rfl

example :
    let src : Array UInt8 := #[0x82, 0x01, 0x9f, 0x02, 0xff]
    let ω : Oracle := fun _ => true
    let h : H := {}
    let r0 : Model.LoadResult := { code := .none, position := 0, read := 0 }
    src.size < 2 ^ 64 - 1 ∧ Acyclic h ∧
    (Model.load (fun i _ => ω (h.reqs + i)) 100 r0 src).item = some (.array [.uint .w8 1, .arrayI [.uint .w8 2]]) ∧
    ∃ y res h1, HB.load ω 100 h src = (some y, res, h1) ∧
      (∃ y', (h1.copy ω y).1 = some y') ∧ (h1.copy (fun i => i != h1.reqs + 1) y).1 = none := by
  intro src ω h r0
  have e2 : (HB.load ω 100 h src).1.isSome = true := by decide +kernel
  have e3 : ((HB.load ω 100 h src).2.2.copy ω ((HB.load ω 100 h src).1.getD 0)).1.isSome = true := by decide +kernel
  have e4 : ((HB.load ω 100 h src).2.2.copy (fun i => i != (HB.load ω 100 h src).2.2.reqs + 1) ((HB.load ω 100 h src).1.getD 0)).1.isSome = false := by
    decide +kernel
  obtain ⟨y, hy⟩ := Option.isSome_iff_exists.mp e2
  rw [hy] at e3 e4
  refine ⟨by decide, ⟨fun _ => 0, fun r c hg => by simp [H.get, h] at hg⟩, example_tree, y, (HB.load ω 100 h src).2.1, (HB.load ω 100 h src).2.2, ?_, ?_, ?_⟩
  · rw [← hy]
  · exact Option.isSome_iff_exists.mp e3
  · simpa using e4

end Props.C01
