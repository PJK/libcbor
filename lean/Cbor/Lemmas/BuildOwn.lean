import Cbor.Lemmas.CopySpec
/-!
# The tree `cbor_load` lays out is exclusively owned; `Den` and `val` agree; `H.copyFuel` suffices for acyclic heaps
-/
namespace Heap
open Spec (Item)

theorem new_fst (h : H) (n : Node) : (h.new n).1 = h.cells.length := rfl

theorem buildChunks_own (t : Bool) : ∀ (cs : List (List UInt8)) (h : H),
    (buildChunks t cs h).2.fault = h.fault ∧ (buildChunks t cs h).2.reqs = h.reqs ∧
    (∀ x, x < h.cells.length → (buildChunks t cs h).2.get x = h.get x) ∧
    OwnChunks t cs (buildChunks t cs h).2 (buildChunks t cs h).1 h.cells.length (buildChunks t cs h).2.cells.length
  | [], h => by simp [buildChunks, OwnChunks]
  | c :: cs, h => by
    simp only [buildChunks]
    obtain ⟨e1, e2, e3, o⟩ := buildChunks_own t cs (h.new (.str t c)).2
    rw [new_len] at o e3
    refine ⟨e1, e2, fun x hx => (e3 x (by omega)).trans (get_new_other h _ x (Nat.ne_of_lt hx)), rfl, ?_, o⟩
    rw [new_fst, e3 _ (by omega)]
    exact get_new_same h _

theorem around_new (h h' : H) (n : Node) : Around h'.cells.length h.cells.length (h'.new n).2.cells.length h.cells.length h'.cells.length :=
  new_len h' n ▸ Around.last _ _

mutual
/-- `build` appends cells only: every cell that existed is unchanged, fault flag and request counter are unchanged, and the
new cells are an exclusively owned tree for `t` -/
theorem build_own : ∀ (t : Item) (h : H),
    (build t h).2.fault = h.fault ∧ (build t h).2.reqs = h.reqs ∧
    (∀ x, x < h.cells.length → (build t h).2.get x = h.get x) ∧
    Own t (build t h).2 (build t h).1 h.cells.length (build t h).2.cells.length
  | .uint _ _, h | .negint _ _, h | .bytes _, h | .text _, h
  | .simple _, h | .half _, h | .single _, h | .double _, h =>
    ⟨rfl, rfl, fun x hx => get_new_other h _ x (Nat.ne_of_lt hx), rfl, new_len h _, get_new_same h _⟩
  | .bytesI cs, h | .textI cs, h => by
    simp only [build]
    obtain ⟨e1, e2, e3, o⟩ := buildChunks_own _ cs h
    have := ownChunks_le o
    exact ⟨e1, e2, fun x hx => (get_new_other _ _ x (Nat.ne_of_lt (by omega))).trans (e3 x hx), _, _, _, _, get_new_same _ _, around_new h _ _,
      ownChunks_congr (fun r _ hr => get_new_other _ _ r (Nat.ne_of_lt hr)) o⟩
  | .array xs, h | .arrayI xs, h => by
    simp only [build]
    obtain ⟨e1, e2, e3, o⟩ := buildList_own xs h
    have := ownList_le o
    exact ⟨e1, e2, fun x hx => (get_new_other _ _ x (Nat.ne_of_lt (by omega))).trans (e3 x hx), _, _, _, _, get_new_same _ _, around_new h _ _,
      ownList_congr (fun r _ hr => get_new_other _ _ r (Nat.ne_of_lt hr)) o⟩
  | .map ps, h | .mapI ps, h => by
    simp only [build]
    obtain ⟨e1, e2, e3, o⟩ := buildPairs_own ps h
    have := ownPairs_le o
    exact ⟨e1, e2, fun x hx => (get_new_other _ _ x (Nat.ne_of_lt (by omega))).trans (e3 x hx), _, _, _, _, get_new_same _ _, around_new h _ _,
      ownPairs_congr (fun r _ hr => get_new_other _ _ r (Nat.ne_of_lt hr)) o⟩
  | .tag n t, h => by
    simp only [build]
    obtain ⟨e1, e2, e3, o⟩ := build_own t h
    have := own_lt o
    exact ⟨e1, e2, fun x hx => (get_new_other _ _ x (Nat.ne_of_lt (by omega))).trans (e3 x hx), _, _, _, get_new_same _ _, around_new h _ _,
      own_congr (fun r _ hr => get_new_other _ _ r (Nat.ne_of_lt hr)) o⟩
theorem buildList_own : ∀ (ts : List Item) (h : H),
    (buildList ts h).2.fault = h.fault ∧ (buildList ts h).2.reqs = h.reqs ∧
    (∀ x, x < h.cells.length → (buildList ts h).2.get x = h.get x) ∧
    OwnList ts (buildList ts h).2 (buildList ts h).1 h.cells.length (buildList ts h).2.cells.length
  | [], h => by simp [buildList, OwnList]
  | t :: ts, h => by
    simp only [buildList]
    obtain ⟨a1, a2, a3, o1⟩ := build_own t h
    obtain ⟨b1, b2, b3, o2⟩ := buildList_own ts (build t h).2
    have := own_lt o1
    exact ⟨b1.trans a1, b2.trans a2, fun x hx => (b3 x (by omega)).trans (a3 x hx),
      _, own_congr (fun r _ hr => b3 r hr) o1, o2⟩
theorem buildPairs_own : ∀ (ps : List (Item × Item)) (h : H),
    (buildPairs ps h).2.fault = h.fault ∧ (buildPairs ps h).2.reqs = h.reqs ∧
    (∀ x, x < h.cells.length → (buildPairs ps h).2.get x = h.get x) ∧
    OwnPairs ps (buildPairs ps h).2 (buildPairs ps h).1 h.cells.length (buildPairs ps h).2.cells.length
  | [], h => by simp [buildPairs, OwnPairs]
  | (k, v) :: ps, h => by
    simp only [buildPairs]
    obtain ⟨a1, a2, a3, o1⟩ := build_own k h
    obtain ⟨b1, b2, b3, o2⟩ := build_own v (build k h).2
    obtain ⟨c1, c2, c3, o3⟩ := buildPairs_own ps (build v (build k h).2).2
    have := own_lt o1
    have := own_lt o2
    exact ⟨c1.trans (b1.trans a1), c2.trans (b2.trans a2), fun x hx => (c3 x (by omega)).trans ((b3 x (by omega)).trans (a3 x hx)),
      _, _, own_congr (fun r _ hr => (c3 r (by omega)).trans (b3 r hr)) o1, own_congr (fun r _ hr => c3 r hr) o2, o3⟩
end

theorem build_den (t : Item) (h : H) : Den t (build t h).2 (build t h).1 :=
  own_den t _ _ _ (build_own t h).2.2.2

theorem build_release (t : Item) (h : H) :
    Freed (build t h).2 ((build t h).2.decref (build t h).1) h.cells.length (build t h).2.cells.length :=
  hdecref_own (build_own t h).2.2.2 (Nat.le_refl _)

/-- what a cell contributes to `H.copyFuel` (released cells: nothing needed) -/
def wt : Option Cell → Nat
  | some c => c.node.children.length + 2
  | none => 0

/-- the weight of the cells (numbered from `i`) whose index satisfies `P` -/
def SL (P : Nat → Prop) [DecidablePred P] : List (Option Cell) → Nat → Nat
  | [], _ => 0
  | c :: cs, i => (if P i then wt c else 0) + SL P cs (i + 1)

theorem SL_mono {P Q : Nat → Prop} [DecidablePred P] [DecidablePred Q] (hpq : ∀ j, P j → Q j) :
    ∀ (l : List (Option Cell)) (i : Nat), SL P l i ≤ SL Q l i
  | [], _ => Nat.le_refl _
  | c :: cs, i => by
    simp only [SL]
    have := SL_mono hpq cs (i + 1)
    by_cases hp : P i
    · simp only [hp, hpq i hp, if_true]; omega
    · simp only [hp, if_false]; omega

theorem SL_split {P Q : Nat → Prop} [DecidablePred P] [DecidablePred Q] :
    ∀ (l : List (Option Cell)) (i k : Nat) (c : Option Cell), l[k]? = some c → Q (i + k) →
      (∀ j, P j → Q j ∧ j ≠ i + k) → wt c + SL P l i ≤ SL Q l i
  | [], _, _, _, hk, _, _ => by simp at hk
  | c' :: cs, i, 0, c, hk, hq, hpq => by
    simp only [List.getElem?_cons_zero, Option.some.injEq] at hk
    subst hk
    simp only [SL]
    have hq' : Q i := hq
    have hp : ¬ P i := fun hp => (hpq i hp).2 rfl
    have := SL_mono (fun j hj => (hpq j hj).1) cs (i + 1)
    simp only [hp, hq', if_true, if_false]; omega
  | c' :: cs, i, k + 1, c, hk, hq, hpq => by
    simp only [List.getElem?_cons_succ] at hk
    have e : i + (k + 1) = (i + 1) + k := by omega
    have := SL_split cs (i + 1) k c hk (e ▸ hq) (fun j hj => e ▸ hpq j hj)
    simp only [SL]
    by_cases hp : P i
    · simp only [hp, (hpq i hp).1, if_true]; omega
    · simp only [hp, if_false]; omega

theorem SL_le_sum {P : Nat → Prop} [DecidablePred P] : ∀ (l : List (Option Cell)) (i : Nat),
    SL P l i ≤ (l.map fun c => match c with | some c => c.node.children.length + 2 | none => 1).sum
  | [], _ => by simp [SL]
  | c :: cs, i => by
    simp only [SL, List.map_cons, List.sum_cons]
    have := SL_le_sum (P := P) cs (i + 1)
    cases c with
    | none => simp only [wt]; split <;> omega
    | some c => simp only [wt]; split <;> omega

theorem getElem?_of_get {h : H} {x : Ref} {c : Cell} (hg : h.get x = some c) : h.cells[x]? = some (some c) := by
  unfold H.get at hg
  cases hh : h.cells[x]? with
  | none => simp [hh] at hg
  | some v => simpa [hh] using hg

theorem length_flatMap_pairs (ps : List (Ref × Ref)) : (ps.flatMap fun kv => [kv.1, kv.2]).length = 2 * ps.length := by
  induction ps with
  | nil => rfl
  | cons p ps ih => simp only [List.flatMap_cons, List.length_append, List.length_cons, List.length_nil, ih]; omega

/-- a live cell's weight comes on top of the weight of everything strictly below it in rank -/
theorem SL_node {h : H} {rank : Ref → Nat} {x : Ref} {c : Cell} (hg : h.get x = some c) :
    wt (some c) + SL (fun i => rank i < rank x) h.cells 0 ≤ SL (fun i => rank i ≤ rank x) h.cells 0 := by
  refine SL_split h.cells 0 x (some c) (getElem?_of_get hg) (by simp) (fun j hj => ⟨Nat.le_of_lt hj, fun e => ?_⟩)
  rw [e, Nat.zero_add] at hj
  exact Nat.lt_irrefl _ hj

theorem SL_leaf {h : H} {rank : Ref → Nat} {x : Ref} {c : Cell} (hg : h.get x = some c) :
    c.node.children.length + 2 ≤ SL (fun i => rank i ≤ rank x) h.cells 0 :=
  Nat.le_trans (Nat.le_add_right _ _) (SL_node hg)

theorem SL_below {h : H} {rank : Ref → Nat} {m : Ref} {R : Nat} (hm : rank m < R) :
    SL (fun i => rank i ≤ rank m) h.cells 0 ≤ SL (fun i => rank i < R) h.cells 0 :=
  SL_mono (fun _ hj => Nat.lt_of_le_of_lt hj hm) h.cells 0

mutual
theorem need_le_SL {h : H} {rank : Ref → Nat}
    (hrank : ∀ r c, h.get r = some c → ∀ x ∈ c.node.children, rank x < rank r) :
    ∀ (t : Item) (x : Ref), Den t h x → need t ≤ SL (fun i => rank i ≤ rank x) h.cells 0
  | .uint _ _, x, hd | .negint _ _, x, hd | .bytes _, x, hd | .text _, x, hd
  | .simple _, x, hd | .half _, x, hd | .single _, x, hd | .double _, x, hd => by
    obtain ⟨rc, hg⟩ := hd
    have := SL_leaf (rank := rank) hg
    simp only [need]; omega
  | .bytesI cs, x, hd | .textI cs, x, hd => by
    obtain ⟨rs, cap, rc, hg, hc⟩ := hd
    have := SL_leaf (rank := rank) hg
    have := denChunks_length _ cs rs hc
    simp only [Node.children] at *
    simp only [need]; omega
  | .array ts, x, hd | .arrayI ts, x, hd => by
    obtain ⟨xs, al, rc, hg, hc⟩ := hd
    have h1 := SL_node (rank := rank) hg
    have h2 := needL_le_SL hrank ts xs (rank x) hc (fun m hm => hrank x _ hg m hm)
    simp only [wt, Node.children] at h1
    simp only [need]; omega
  | .map ps, x, hd | .mapI ps, x, hd => by
    obtain ⟨rs, al, rc, hg, hc⟩ := hd
    have h1 := SL_node (rank := rank) hg
    have h2 := needP_le_SL hrank ps rs (rank x) hc (fun p hp =>
      ⟨hrank x _ hg p.1 (List.mem_flatMap.mpr ⟨p, hp, by simp⟩), hrank x _ hg p.2 (List.mem_flatMap.mpr ⟨p, hp, by simp⟩)⟩)
    simp only [wt, Node.children, length_flatMap_pairs] at h1
    simp only [need]; omega
  | .tag n t, x, hd => by
    obtain ⟨y, rc, hg, hc⟩ := hd
    have h1 := SL_node (rank := rank) hg
    have h2 := need_le_SL hrank t y hc
    have h3 := SL_below (h := h) (hrank x _ hg y (by simp [Node.children]))
    simp only [wt, Node.children, List.length_cons, List.length_nil] at h1
    simp only [need]; omega
theorem needL_le_SL {h : H} {rank : Ref → Nat}
    (hrank : ∀ r c, h.get r = some c → ∀ x ∈ c.node.children, rank x < rank r) :
    ∀ (ts : List Item) (xs : List Ref) (R : Nat), DenList ts h xs → (∀ m ∈ xs, rank m < R) →
      needL ts ≤ xs.length + 1 + SL (fun i => rank i < R) h.cells 0
  | [], [], _, _, _ => by simp only [needL]; omega
  | [], _ :: _, _, hd, _ | _ :: _, [], _, hd, _ => hd.elim
  | t :: ts, x :: xs, R, hd, hm => by
    simp only [DenList] at hd
    have h1 := need_le_SL hrank t x hd.1
    have h2 := SL_below (h := h) (hm x (by simp))
    have h3 := needL_le_SL hrank ts xs R hd.2 (fun m hmm => hm m (by simp [hmm]))
    simp only [needL, List.length_cons]; omega
theorem needP_le_SL {h : H} {rank : Ref → Nat}
    (hrank : ∀ r c, h.get r = some c → ∀ x ∈ c.node.children, rank x < rank r) :
    ∀ (ps : List (Item × Item)) (rs : List (Ref × Ref)) (R : Nat), DenPairs ps h rs →
      (∀ p ∈ rs, rank p.1 < R ∧ rank p.2 < R) →
      needP ps ≤ rs.length + 1 + SL (fun i => rank i < R) h.cells 0
  | [], [], _, _, _ => by simp only [needP]; omega
  | [], _ :: _, _, hd, _ | _ :: _, [], _, hd, _ => hd.elim
  | (k, v) :: ps, (a, b) :: rs, R, hd, hm => by
    simp only [DenPairs] at hd
    have h1 := need_le_SL hrank k a hd.1
    have h2 := need_le_SL hrank v b hd.2.1
    have h3 := SL_below (h := h) (m := a) (hm (a, b) (by simp)).1
    have h4 := SL_below (h := h) (m := b) (hm (a, b) (by simp)).2
    have h5 := needP_le_SL hrank ps rs R hd.2.2 (fun p hp => hm p (by simp [hp]))
    simp only [needP, List.length_cons]; omega
end

/-- the fuel `H.copyFuel` covers the need of every item of an acyclic heap -/
theorem need_le_copyFuel (h : H) (hac : ∃ rank : Ref → Nat, ∀ r c, h.get r = some c → ∀ x ∈ c.node.children, rank x < rank r) :
    ∀ (t : Item) (x : Ref), Den t h x → need t ≤ h.copyFuel := by
  obtain ⟨rank, hrank⟩ := hac
  intro t x hd
  have h1 := need_le_SL hrank t x hd
  have h2 : SL (fun i => rank i ≤ rank x) h.cells 0 + 2 ≤ h.copyFuel := Nat.add_le_add_right (SL_le_sum h.cells 0) 2
  omega

/-! ### `Den` and `val` agree

The recursion of `val / valList / valPairs / valChunks` consumes fuel exactly like `copy / copyItems / copyPairs /
copyChunks`, so the structural fuel bound for `val` is the same function as the one for `copy`. -/

abbrev vneedL : List Item → Nat := needL
abbrev vneedP : List (Item × Item) → Nat := needP

theorem valChunks_of_den (t : Bool) : ∀ (cs : List (List UInt8)) (f : Nat) (h : H) (rs : List Ref),
    DenChunks t cs h rs → cs.length + 1 ≤ f → valChunks f h rs = some cs
  | [], 0, _, [], _, hf => by simp at hf
  | [], f + 1, _, [], _, _ => by simp [valChunks]
  | [], _, _, _ :: _, hd, _ | _ :: _, _, _, [], hd, _ => hd.elim
  | b :: bs, 0, _, c :: cs, _, hf => by simp at hf
  | b :: bs, f + 1, h, c :: cs, hd, hf => by
    simp only [DenChunks] at hd
    obtain ⟨⟨rc, hg⟩, hd2⟩ := hd
    have := valChunks_of_den t bs f h cs hd2 (by simp only [List.length_cons] at hf; omega)
    simp [valChunks, hg, this]

mutual
theorem val_of_den : ∀ (t : Item) (f : Nat) (h : H) (x : Ref), Den t h x → need t ≤ f → val f h x = some t
  | .uint _ _, f, h, x, hd, hf | .negint _ _, f, h, x, hd, hf | .bytes _, f, h, x, hd, hf | .text _, f, h, x, hd, hf
  | .simple _, f, h, x, hd, hf | .half _, f, h, x, hd, hf | .single _, f, h, x, hd, hf | .double _, f, h, x, hd, hf => by
    obtain ⟨rc, hg⟩ := hd
    cases f with
    | zero => simp [need] at hf
    | succ f => simp [val, hg]
  | .bytesI cs, f, h, x, hd, hf | .textI cs, f, h, x, hd, hf => by
    obtain ⟨rs, cap, rc, hg, hc⟩ := hd
    simp only [need] at hf
    cases f with
    | zero => omega
    | succ f =>
      have := valChunks_of_den _ cs f h rs hc (by omega)
      simp [val, hg, this]
  | .array ts, f, h, x, hd, hf | .arrayI ts, f, h, x, hd, hf => by
    obtain ⟨xs, al, rc, hg, hc⟩ := hd
    simp only [need] at hf
    cases f with
    | zero => omega
    | succ f =>
      have := valList_of_den ts f h xs hc (show needL ts ≤ f by omega)
      simp [val, hg, this]
  | .map ps, f, h, x, hd, hf | .mapI ps, f, h, x, hd, hf => by
    obtain ⟨rs, al, rc, hg, hc⟩ := hd
    simp only [need] at hf
    cases f with
    | zero => omega
    | succ f =>
      have := valPairs_of_den ps f h rs hc (show needP ps ≤ f by omega)
      simp [val, hg, this]
  | .tag n t, f, h, x, hd, hf => by
    obtain ⟨y, rc, hg, hc⟩ := hd
    simp only [need] at hf
    cases f with
    | zero => omega
    | succ f =>
      have := val_of_den t f h y hc (by omega)
      simp [val, hg, this]
theorem valList_of_den : ∀ (ts : List Item) (f : Nat) (h : H) (xs : List Ref), DenList ts h xs → vneedL ts ≤ f → valList f h xs = some ts
  | [], 0, _, [], _, hf => by simp [vneedL, needL] at hf
  | [], f + 1, _, [], _, _ => by simp [valList]
  | [], _, _, _ :: _, hd, _ | _ :: _, _, _, [], hd, _ => hd.elim
  | t :: ts, 0, _, x :: xs, _, hf => by simp only [vneedL, needL] at hf; omega
  | t :: ts, f + 1, h, x :: xs, hd, hf => by
    simp only [DenList] at hd
    simp only [vneedL, needL] at hf
    have a := val_of_den t f h x hd.1 (by omega)
    have b := valList_of_den ts f h xs hd.2 (show needL ts ≤ f by omega)
    simp [valList, a, b]
theorem valPairs_of_den : ∀ (ps : List (Item × Item)) (f : Nat) (h : H) (rs : List (Ref × Ref)), DenPairs ps h rs → vneedP ps ≤ f → valPairs f h rs = some ps
  | [], 0, _, [], _, hf => by simp [vneedP, needP] at hf
  | [], f + 1, _, [], _, _ => by simp [valPairs]
  | [], _, _, _ :: _, hd, _ | _ :: _, _, _, [], hd, _ => hd.elim
  | (k, v) :: ps, 0, _, (a, b) :: rs, _, hf => by simp only [vneedP, needP] at hf; omega
  | (k, v) :: ps, f + 1, h, (a, b) :: rs, hd, hf => by
    simp only [DenPairs] at hd
    simp only [vneedP, needP] at hf
    have e1 := val_of_den k f h a hd.1 (by omega)
    have e2 := val_of_den v f h b hd.2.1 (by omega)
    have e3 := valPairs_of_den ps f h rs hd.2.2 (show needP ps ≤ f by omega)
    simp [valPairs, e1, e2, e3]
end

/-- in an acyclic heap `H.val` computes the tree an item denotes -/
theorem hval_of_den (h : H) (hac : ∃ rank : Ref → Nat, ∀ r c, h.get r = some c → ∀ x ∈ c.node.children, rank x < rank r)
    (t : Item) (x : Ref) (hd : Den t h x) : h.val x = some t :=
  val_of_den t h.copyFuel h x hd (need_le_copyFuel h hac t x hd)

/-! ### the converse: what `val` computes is denoted

`valChunks` does not look at the kind (byte / text) of a chunk, `DenChunks` does; `addChunk` only ever adds chunks of
the string's own kind, and for such heaps the converse holds. -/

def ChunkKinds (h : H) : Prop :=
  ∀ r t cs cap rc, h.get r = some ⟨.strI t cs cap, rc⟩ → ∀ c ∈ cs, ∀ t' b rc', h.get c = some ⟨.str t' b, rc'⟩ → t' = t

theorem denChunks_of_val (t : Bool) : ∀ (f : Nat) (h : H) (rs : List Ref) (cs : List (List UInt8)),
    (∀ c ∈ rs, ∀ t' b rc', h.get c = some ⟨.str t' b, rc'⟩ → t' = t) → valChunks f h rs = some cs → DenChunks t cs h rs
  | 0, _, _, _, _, hv => by simp [valChunks] at hv
  | f + 1, _, [], cs, _, hv => by
    simp only [valChunks, Option.some.injEq] at hv
    subst hv; simp [DenChunks]
  | f + 1, h, c :: rs, cs, hk, hv => by
    simp only [valChunks] at hv
    cases hg : h.get c with
    | none => simp [hg] at hv
    | some cell =>
      obtain ⟨n, rc⟩ := cell
      cases n with
      | str t' b =>
        simp only [hg, Option.map_eq_some_iff] at hv
        obtain ⟨l, hl, e⟩ := hv
        subst e
        have := hk c (by simp) t' b rc hg
        subst this
        simp only [DenChunks]
        exact ⟨⟨rc, hg⟩, denChunks_of_val _ f h rs l (fun c' hc' => hk c' (by simp [hc'])) hl⟩
      | _ => simp [hg] at hv

theorem den_of_val_aux (h : H) (hk : ChunkKinds h) : ∀ (f : Nat),
    (∀ x t, val f h x = some t → Den t h x) ∧
    (∀ xs ts, valList f h xs = some ts → DenList ts h xs) ∧
    (∀ rs ps, valPairs f h rs = some ps → DenPairs ps h rs)
  | 0 => by simp [val, valList, valPairs]
  | f + 1 => by
    obtain ⟨i1, i2, i3⟩ := den_of_val_aux h hk f
    refine ⟨fun x t hv => ?_, fun xs ts hv => ?_, fun rs ps hv => ?_⟩
    · simp only [val] at hv
      cases hg : h.get x with
      | none => simp [hg] at hv
      | some cell =>
        obtain ⟨n, rc⟩ := cell
        simp only [hg] at hv
        cases n with
        | int b w v | str b v =>
          cases b <;> simp only [Option.some.injEq] at hv <;> subst hv <;> exact ⟨rc, hg⟩
        | strI t' cs cap =>
          simp only [Option.map_eq_some_iff] at hv
          obtain ⟨l, hl, e⟩ := hv
          have hd := denChunks_of_val t' f h cs l (hk x t' cs cap rc hg) hl
          cases t' <;> simp only [Bool.false_eq_true, if_false, if_true] at e <;> subst e <;> exact ⟨cs, cap, rc, hg, hd⟩
        | arr d xs al =>
          simp only [Option.map_eq_some_iff] at hv
          obtain ⟨l, hl, e⟩ := hv
          have hd := i2 xs l hl
          cases d <;> simp only [Bool.false_eq_true, if_false, if_true] at e <;> subst e <;> exact ⟨xs, al, rc, hg, hd⟩
        | map d ps al =>
          simp only [Option.map_eq_some_iff] at hv
          obtain ⟨l, hl, e⟩ := hv
          have hd := i3 ps l hl
          cases d <;> simp only [Bool.false_eq_true, if_false, if_true] at e <;> subst e <;> exact ⟨ps, al, rc, hg, hd⟩
        | tag n o =>
          cases o with
          | none => simp at hv
          | some y =>
            simp only [Option.map_eq_some_iff] at hv
            obtain ⟨l, hl, e⟩ := hv
            subst e
            simp only [Den]
            exact ⟨y, rc, hg, i1 y l hl⟩
        | ctrl v | half v | single v | double v => simp only [Option.some.injEq] at hv; subst hv; exact ⟨rc, hg⟩
    · cases xs with
      | nil => simp only [valList, Option.some.injEq] at hv; subst hv; simp [DenList]
      | cons x xs =>
        simp only [valList, bind, Option.bind_eq_some_iff, pure, Option.some.injEq] at hv
        obtain ⟨a, ha, r, hr, e⟩ := hv
        subst e
        simp only [DenList]
        exact ⟨i1 x a ha, i2 xs r hr⟩
    · cases rs with
      | nil => simp only [valPairs, Option.some.injEq] at hv; subst hv; simp [DenPairs]
      | cons p rs =>
        obtain ⟨k, v⟩ := p
        simp only [valPairs, bind, Option.bind_eq_some_iff, pure, Option.some.injEq] at hv
        obtain ⟨a, ha, b, hb, r, hr, e⟩ := hv
        subst e
        simp only [DenPairs]
        exact ⟨i1 k a ha, i1 v b hb, i3 rs r hr⟩

theorem den_of_val {h : H} (hk : ChunkKinds h) {f : Nat} {x : Ref} {t : Item} (hv : val f h x = some t) : Den t h x :=
  (den_of_val_aux h hk f).1 x t hv

/-- without `ChunkKinds` the converse fails: a byte string holding a text chunk -/
example : ∃ (h : H) (f : Nat) (x : Ref) (t : Item), val f h x = some t ∧ ¬ Den t h x :=
  ⟨{ cells := [some ⟨.str true [], 1⟩, some ⟨.strI false [0] 1, 1⟩] }, 3, 1, .bytesI [[]], by
    simp [val, valChunks, H.get], by simp [Den, DenChunks, H.get]⟩

end Heap
