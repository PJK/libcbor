import Cbor.Spec.RoundTrip
import Cbor.Lemmas.Refine
import Cbor.Lemmas.Ser
/-! What the round trip through the model (`Props.C03`) needs beside `Spec.RT.decode_encode`: libcbor's overflow guard
grants every small request, canonicalising a NaN twice changes nothing, and so the tree a round trip yields encodes to
the same bytes as the original. -/
namespace Lemmas.RoundTrip
open Spec Spec.RT

theorem okAll_guard : OkAll Lemmas.Refine.okGuard := by
  intro tok hs
  cases tok <;> simp [Lemmas.Refine.okGuard, Small] at hs ⊢
  · exact Lemmas.Refine.mul_guard 8 _ (by omega) (by omega) (by omega)
  · exact Lemmas.Refine.mul_guard 16 _ (by omega) (by omega) (by omega)

theorem canonHalf_idem (h : Nat) : Spec.Float.canonHalf (Spec.Float.canonHalf h) = Spec.Float.canonHalf h := by
  unfold Spec.Float.canonHalf
  by_cases c : Spec.Float.isNaN 5 10 h = true
  · simp only [c, if_true]; decide
  · simp [c]

theorem canonSingle_idem (b : Nat) : Spec.Float.canonSingle (Spec.Float.canonSingle b) = Spec.Float.canonSingle b := by
  unfold Spec.Float.canonSingle
  by_cases c : Spec.Float.isNaN 8 23 b = true
  · simp only [c, if_true]; decide
  · simp [c]

theorem canonDouble_idem (b : Nat) : Spec.Float.canonDouble (Spec.Float.canonDouble b) = Spec.Float.canonDouble b := by
  unfold Spec.Float.canonDouble
  by_cases c : Spec.Float.isNaN 11 52 b = true
  · simp only [c, if_true]; decide
  · simp [c]

/-- a half item holding a half-representable value (what `Lemmas.Ser.Valid` demands) re-encodes to the same two bytes after a round trip -/
theorem half_stable (f : Nat) (hv : ∃ h, h < 65536 ∧ f = (Ext.decodeHalfBits h).toNat) :
    Spec.Float.singleToHalf f < 65536 ∧ Spec.Float.singleToHalf (halfToSingle (Spec.Float.singleToHalf f)) = Spec.Float.singleToHalf f := by
  obtain ⟨h, hh, rfl⟩ := hv
  rw [singleToHalf_decode h hh]
  have hc := canonHalf_lt h hh
  refine ⟨hc, ?_⟩
  rw [← decodeHalf_spec, singleToHalf_decode _ hc, canonHalf_idem]

mutual
/-- **Re-serialization is identical**: the tree a round trip yields has the same encoding as the original -/
theorem encode_renorm : ∀ t : Item, Lemmas.Ser.Valid t → encode (renorm t) = encode t
  | .uint _ _, _ => rfl
  | .negint _ _, _ => rfl
  | .bytes _, _ => rfl
  | .text _, _ => rfl
  | .bytesI _, _ => rfl
  | .textI _, _ => rfl
  | .array xs, hv => by
    simp only [Lemmas.Ser.Valid] at hv
    simp only [renorm, encode, encodeList_renorm xs hv, renormL_length]
  | .arrayI xs, hv => by
    simp only [Lemmas.Ser.Valid] at hv
    simp only [renorm, encode, encodeList_renorm xs hv]
  | .map kvs, hv => by
    simp only [Lemmas.Ser.Valid] at hv
    simp only [renorm, encode, encodePairs_renorm kvs hv, renormP_length]
  | .mapI kvs, hv => by
    simp only [Lemmas.Ser.Valid] at hv
    simp only [renorm, encode, encodePairs_renorm kvs hv]
  | .tag n x, hv => by
    simp only [Lemmas.Ser.Valid] at hv
    simp only [renorm, encode, encode_renorm x hv.2]
  | .simple _, _ => rfl
  | .half f, hv => by
    simp only [Lemmas.Ser.Valid] at hv
    simp only [renorm, encode, (half_stable f hv).2]
  | .single b, _ => by simp only [renorm, encode, canonSingle_idem]
  | .double b, _ => by simp only [renorm, encode, canonDouble_idem]
theorem encodeList_renorm : ∀ xs : List Item, Lemmas.Ser.ValidL xs → encodeList (renormL xs) = encodeList xs
  | [], _ => rfl
  | x :: xs, hv => by
    simp only [Lemmas.Ser.ValidL] at hv
    simp only [renormL, encodeList, encode_renorm x hv.1, encodeList_renorm xs hv.2]
theorem encodePairs_renorm : ∀ kvs : List (Item × Item), Lemmas.Ser.ValidP kvs → encodePairs (renormP kvs) = encodePairs kvs
  | [], _ => rfl
  | (k, v) :: r, hv => by
    simp only [Lemmas.Ser.ValidP] at hv
    simp only [renormP, encodePairs, encode_renorm k hv.1, encode_renorm v hv.2.1, encodePairs_renorm r hv.2.2]
theorem renormL_length : ∀ xs : List Item, (renormL xs).length = xs.length
  | [] => rfl
  | _ :: xs => by simp [renormL, renormL_length xs]
theorem renormP_length : ∀ kvs : List (Item × Item), (renormP kvs).length = kvs.length
  | [] => rfl
  | (_, _) :: r => by simp [renormP, renormP_length r]
end

theorem at_toArray (bs : List UInt8) : At (Lemmas.Refine.getOf bs.toArray) 0 bs := by
  intro i hi
  simp [Lemmas.Refine.getOf, hi]

end Lemmas.RoundTrip
