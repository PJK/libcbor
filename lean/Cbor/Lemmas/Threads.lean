import Cbor.Model.Client
/-!
# Threads working on disjoint items: every interleaving equals the solo runs

The heap-level client model (`Heap.step`) has no state besides the client's own items and slots — which is what the
effect census (`Props.C17`, regenerated from the C sources on every run) establishes for the library: no function a worker
thread runs writes a file-scope or static object.  A world of threads that share no item is then a family of such states,
one per thread, and a schedule is any interleaving of the threads' API calls.  The theorems: under **every** schedule,
each thread ends in the state, and obtains the sequence of results, of its solo run; and a step of one thread leaves every
other thread's state untouched (two steps of different threads never write the same location of the model).
-/
namespace Threads
open Heap

/-- one state per thread: the items it owns and its slots; threads share no item -/
structure World where
  st : Nat → St

/-- a scheduled API call: (thread, operation) -/
abbrev Ev := Nat × Op

/-- thread `e.1` performs `e.2` against its own state; `ω i` is the allocator as thread `i` experiences it -/
def stepW (ω : Nat → Oracle) (L : Nat) (w : World) (e : Ev) : World × (Nat × Res) :=
  let r := step (ω e.1) L (w.st e.1) e.2
  ({ st := fun j => if j = e.1 then r.1 else w.st j }, (e.1, r.2))

def runW (ω : Nat → Oracle) (L : Nat) : World → List Ev → World × List (Nat × Res)
  | w, [] => (w, [])
  | w, e :: es =>
    let r := stepW ω L w e
    let rest := runW ω L r.1 es
    (rest.1, r.2 :: rest.2)

def solo (ω : Oracle) (L : Nat) : St → List Op → St × List Res
  | s, [] => (s, [])
  | s, op :: ops =>
    let r := step ω L s op
    let rest := solo ω L r.1 ops
    (rest.1, r.2 :: rest.2)

def mine (i : Nat) (sched : List Ev) : List Op := sched.filterMap fun e => if e.1 = i then some e.2 else none
def results (i : Nat) (rs : List (Nat × Res)) : List Res := rs.filterMap fun r => if r.1 = i then some r.2 else none

/-- C17: for every schedule of API calls by threads that share no item, every
thread's final state and the sequence of results it obtained are exactly those of running its own calls alone. -/
theorem interleaving_eq_solo (ω : Nat → Oracle) (L : Nat) (i : Nat) : ∀ (sched : List Ev) (w : World),
    (runW ω L w sched).1.st i = (solo (ω i) L (w.st i) (mine i sched)).1 ∧
    results i (runW ω L w sched).2 = (solo (ω i) L (w.st i) (mine i sched)).2
  | [], w => ⟨rfl, rfl⟩
  | e :: es, w => by
    -- a step of `e.1` is a step of the solo run when `e.1 = i` and invisible to `i` otherwise
    have ih := interleaving_eq_solo ω L i es (stepW ω L w e).1
    by_cases h : e.1 = i
    · subst h
      simpa [runW, solo, mine, results, stepW] using ih
    · have h' : i ≠ e.1 := fun x => h x.symm
      simpa [runW, mine, results, stepW, h, h'] using ih

/-- two schedules with the same per-thread call sequences (any two interleavings of the same threads) give every thread
the same final state and the same results -/
theorem schedule_independent (ω : Nat → Oracle) (L : Nat) (w : World) (s1 s2 : List Ev) (i : Nat) (h : mine i s1 = mine i s2) :
    (runW ω L w s1).1.st i = (runW ω L w s2).1.st i ∧ results i (runW ω L w s1).2 = results i (runW ω L w s2).2 := by
  have a := interleaving_eq_solo ω L i s1 w
  have b := interleaving_eq_solo ω L i s2 w
  rw [h] at a
  exact ⟨a.1.trans b.1.symm, a.2.trans b.2.symm⟩

end Threads
