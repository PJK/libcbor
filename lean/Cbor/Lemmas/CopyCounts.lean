import Cbor.Lemmas.CountsOps
/-! Reference-count bookkeeping through `cbor_copy` (with its clean-up paths) and through the tree `cbor_load` lays out. -/
namespace Heap

theorem sticky_new (h : H) (n : Node) : Sticky h (h.new n).2 := id

theorem bump_rot (own : Ref → Nat) (a b c : Ref) : bump (bump (bump own a 1) b 1) c 1 = bump (bump (bump own c 1) b 1) a 1 := by
  funext r; simp only [bump]; omega

theorem buildTag_counts' {ω : Oracle} {h : H} {o : Ref → Nat} {n : Nat} {x : Ref}
    (hc : Counts h o) (hf : (buildTag ω h n x).2.fault = false) :
    match (buildTag ω h n x).1 with
    | some t => Counts (buildTag ω h n x).2 (bump o t 1)
    | none => Counts (buildTag ω h n x).2 o :=
  (Books.buildTag n x (Or.inr hc)).counts hf

mutual
/-- `cbor_copy` keeps the books, on success (the client owns the copy's root) and on every failure path
(everything allocated for the partial copy has been released again) -/
theorem Copies.books {ω : Oracle} {h : H} {r : Ref} {out : Option Ref × H} :
    Copies ω h r out → ∀ own, Books h own → BooksOut own out
  | .bad _ _, _, _ => Or.inl rfl
  | .alloc _ hn hp _, _, b => b.newPost hp hn
  | .members _ hn hp k, own, b => k.books own (b.newPost hp hn)
  | .tag0 _ _ c, own, b => c.books own b
  | .tag1 (n := n) (xc := xc) (h1 := h1) _ _ c, own, b => by
    have := Books.buildTag (ω := ω) n xc (c.books own b : Books h1 _)
    unfold BooksOut at this ⊢
    cases hbt : (buildTag ω h1 n xc).1 with
    | none => rw [hbt] at this; exact this.decref
    | some t => rw [hbt] at this; simp only at this ⊢; rw [bump_comm] at this; exact this.decref
/-- while the members are copied the client (the copy in progress) owns the new container `res` -/
theorem CopiesInto.books {ω : Oracle} {h : H} {res : Ref} {xs : List Ref} {out : Option Ref × H} :
    CopiesInto ω h res xs out → ∀ own, Books h (bump own res 1) → BooksOut own out
  | .bad _ _ _, _, _ => Or.inl rfl
  | .nil _ _, _, b => b
  | .item0 (h1 := h1) c, _, b => Books.decref (c.books _ b : Books h1 _)
  | .item1 (h1 := h1) c l, _, b => Books.decref (Books.decref (Books.link l (c.books _ b : Books h1 _)))
  | .item2 (h1 := h1) c l k, own, b => k.books own (Books.decref (Books.link l (c.books _ b : Books h1 _)))
  | .pair0 (res := res) (kc := kc) (h2 := h2) ck cv, own, b => by
    have : Books h2 (bump (bump own res 1) kc 1) := cv.books _ (ck.books _ b)
    rw [bump_comm] at this; exact this.decref.decref
  | .pair1 (res := res) (kc := kc) (vc := vc) (h3 := h3) ck cv l, own, b => by
    have : Books h3 (bump (bump (bump own res 1) kc 1) vc 1) := Books.link l (cv.books _ (ck.books _ b))
    rw [bump_rot] at this; exact this.decref.decref.decref
  | .pair2 (res := res) (kc := kc) (vc := vc) (h3 := h3) ck cv l k, own, b => by
    have : Books h3 (bump (bump (bump own res 1) kc 1) vc 1) := Books.link l (cv.books _ (ck.books _ b))
    rw [bump_comm (bump own res 1)] at this; exact k.books own this.decref.decref
end

theorem copy_counts_all (ω : Oracle) : ∀ f : Nat,
    (∀ h r own, Counts h own → (copy ω f h r).2.fault = false →
      match (copy ω f h r).1 with
      | some r' => Counts (copy ω f h r).2 (bump own r' 1)
      | none => Counts (copy ω f h r).2 own) ∧
    (∀ h res xs own, Counts h (bump own res 1) → (copyItems ω f h res xs).2.fault = false →
      match (copyItems ω f h res xs).1 with
      | some r' => Counts (copyItems ω f h res xs).2 (bump own r' 1)
      | none => Counts (copyItems ω f h res xs).2 own) ∧
    (∀ h res xs own, Counts h (bump own res 1) → (copyChunks ω f h res xs).2.fault = false →
      match (copyChunks ω f h res xs).1 with
      | some r' => Counts (copyChunks ω f h res xs).2 (bump own r' 1)
      | none => Counts (copyChunks ω f h res xs).2 own) ∧
    (∀ h res ps own, Counts h (bump own res 1) → (copyPairs ω f h res ps).2.fault = false →
      match (copyPairs ω f h res ps).1 with
      | some r' => Counts (copyPairs ω f h res ps).2 (bump own r' 1)
      | none => Counts (copyPairs ω f h res ps).2 own) := fun f =>
  have ⟨a, b, c, d⟩ := copy_paths ω f
  ⟨fun h r own hc => ((a h r).books own (Or.inr hc)).counts, fun h res xs own hc => ((b h res xs).books own (Or.inr hc)).counts,
   fun h res xs own hc => ((c h res xs).books own (Or.inr hc)).counts, fun h res ps own hc => ((d h res ps).books own (Or.inr hc)).counts⟩

theorem buildChunks_counts (t : Bool) : ∀ (cs : List (List UInt8)) (h : H) (own : Ref → Nat), Counts h own →
    Counts (buildChunks t cs h).2 (bumpL own (buildChunks t cs h).1)
  | [], h, own, hc => by simpa [buildChunks, bumpL_nil] using hc
  | c :: cs, h, own, hc => by
    simp only [buildChunks]
    have h1 : Counts (h.new (.str t c)).2 _ := counts_snoc rfl [] (fun _ => rfl) (by rwa [bumpL_nil])
    have h2 := buildChunks_counts t cs _ _ h1
    rwa [bumpL_bump] at h2

theorem children_pairs_count (ps : List (Ref × Ref)) (r : Ref) :
    (Node.map d ps al).children.count r = (ps.flatMap fun kv => [kv.1, kv.2]).count r := rfl

mutual
/-- the tree `cbor_load` hands out: every node counted once by its parent, the root owned by the caller; a container
takes over the references to its members that the builder owned (`counts_snoc`) -/
theorem build_counts : ∀ (x : Spec.Item) (h : H) (own : Ref → Nat), Counts h own → Counts (build x h).2 (bump own (build x h).1 1)
  | .uint _ _, h, own, hc | .negint _ _, h, own, hc | .bytes _, h, own, hc | .text _, h, own, hc
  | .simple _, h, own, hc | .half _, h, own, hc | .single _, h, own, hc | .double _, h, own, hc => by
    simp only [build]
    exact counts_snoc rfl [] (fun _ => rfl) (by rwa [bumpL_nil])
  | .bytesI cs, h, own, hc | .textI cs, h, own, hc => by
    simp only [build]
    exact counts_snoc rfl _ (fun _ => rfl) (buildChunks_counts _ cs h own hc)
  | .array xs, h, own, hc | .arrayI xs, h, own, hc => by
    simp only [build]
    exact counts_snoc rfl _ (fun _ => rfl) (buildList_counts xs h own hc)
  | .map ps, h, own, hc | .mapI ps, h, own, hc => by
    simp only [build]
    exact counts_snoc rfl _ (fun _ => rfl) (buildPairs_counts ps h own hc)
  | .tag n x, h, own, hc => by
    simp only [build]
    exact counts_snoc rfl [(build x h).1] (fun _ => rfl) (by rw [bumpL_single]; exact build_counts x h own hc)
theorem buildList_counts : ∀ (xs : List Spec.Item) (h : H) (own : Ref → Nat), Counts h own →
    Counts (buildList xs h).2 (bumpL own (buildList xs h).1)
  | [], h, own, hc => by simpa [buildList, bumpL_nil] using hc
  | x :: xs, h, own, hc => by
    simp only [buildList]
    have h2 := buildList_counts xs (build x h).2 _ (build_counts x h own hc)
    rwa [bumpL_bump] at h2
theorem buildPairs_counts : ∀ (ps : List (Spec.Item × Spec.Item)) (h : H) (own : Ref → Nat), Counts h own →
    Counts (buildPairs ps h).2 (bumpL own ((buildPairs ps h).1.flatMap fun kv => [kv.1, kv.2]))
  | [], h, own, hc => by simpa [buildPairs, bumpL_nil] using hc
  | (k, v) :: ps, h, own, hc => by
    simp only [buildPairs]
    have h3 := buildPairs_counts ps (build v (build k h).2).2 _ (build_counts v (build k h).2 _ (build_counts k h own hc))
    rw [bumpL_bump, bumpL_bump] at h3
    exact h3
end

/-- `cbor_load` at heap level keeps the books: on success the caller owns the root of a freshly laid out tree, on failure nothing changed -/
theorem load_counts (ω : Oracle) (L : Nat) (h : H) (src : Array UInt8) (own : Ref → Nat) (hc : Counts h own) :
    match (h.load ω L src).1 with
    | some r => Counts (h.load ω L src).2.2 (bump own r 1)
    | none => Counts (h.load ω L src).2.2 own := by
  unfold H.load
  simp only
  cases hi : (Model.load (fun i x => ω (h.reqs + i)) L { code := Model.Code.none, position := 0, read := 0 } src).item with
  | none => exact counts_congr hc rfl
  | some x =>
    simp only
    exact build_counts x _ own (counts_congr hc rfl)

end Heap
