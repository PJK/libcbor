import Cbor.Props.HeapLoad
import Cbor.Lemmas.LoadFacts
/-!
# Recursion depth of the operations on a decoded tree (property C19, second half)

`rdepth` and the release theorem `decref_own_depth` stand with `Own` in `Lemmas/Own.lean`; here: `rdepth t ≤ openDepth t + 1`,
decoded trees have `openDepth ≤ L`, and what follows for the trees `cbor_load` hands out.
-/
namespace Lemmas.Depth
open Spec (Item openDepth depthList depthPairs)

mutual
theorem rdepth_le_openDepth : ∀ t, rdepth t ≤ openDepth t + 1
  | .uint _ _ | .negint _ _ | .bytes _ | .text _ | .simple _ | .half _ | .single _ | .double _ => by
    simp [rdepth]
  | .bytesI cs | .textI cs => by
    simp only [rdepth, openDepth]; split <;> omega
  | .array [] | .map [] => by simp [rdepth, rdepthL, rdepthP]
  | .array (t :: ts) => by
    have := rdepthL_le_depthList (t :: ts)
    simp only [rdepth, openDepth]; omega
  | .arrayI ts => by
    have := rdepthL_le_depthList ts
    simp only [rdepth, openDepth]; omega
  | .map (p :: ps) => by
    have := rdepthP_le_depthPairs (p :: ps)
    simp only [rdepth, openDepth]; omega
  | .mapI ps => by
    have := rdepthP_le_depthPairs ps
    simp only [rdepth, openDepth]; omega
  | .tag _ t => by
    have := rdepth_le_openDepth t
    simp only [rdepth, openDepth]; omega
theorem rdepthL_le_depthList : ∀ ts, rdepthL ts ≤ depthList ts + 1
  | [] => by simp [rdepthL]
  | t :: ts => by
    have := rdepth_le_openDepth t
    have := rdepthL_le_depthList ts
    simp only [rdepthL, depthList]; omega
theorem rdepthP_le_depthPairs : ∀ ps, rdepthP ps ≤ depthPairs ps + 1
  | [] => by simp [rdepthP]
  | (k, v) :: ps => by
    have := rdepth_le_openDepth k
    have := rdepth_le_openDepth v
    have := rdepthP_le_depthPairs ps
    simp only [rdepthP, depthPairs]; omega
end

theorem depthList_le_of_mem (m : Nat) : ∀ xs : List Item, (∀ x ∈ xs, openDepth x ≤ m) → depthList xs ≤ m
  | [], _ => by simp [depthList]
  | x :: xs, h => by
    have h1 := h x (by simp)
    have h2 := depthList_le_of_mem m xs (fun y hy => h y (by simp [hy]))
    simp only [depthList]; omega

theorem depthPairs_le_of_mem (m : Nat) : ∀ ps : List (Item × Item), (∀ kv ∈ ps, openDepth kv.1 ≤ m ∧ openDepth kv.2 ≤ m) → depthPairs ps ≤ m
  | [], _ => by simp [depthPairs]
  | (k, v) :: ps, h => by
    have h1 : openDepth k ≤ m ∧ openDepth v ≤ m := h (k, v) (by simp)
    have h2 := depthPairs_le_of_mem m ps (fun y hy => h y (by simp [hy]))
    simp only [depthPairs]; omega

theorem openDepth_array_le (xs : List Item) : openDepth (.array xs) ≤ 1 + depthList xs := by
  cases xs <;> simp [openDepth]

theorem openDepth_map_le (ps : List (Item × Item)) : openDepth (.map ps) ≤ 1 + depthPairs ps := by
  cases ps <;> simp [openDepth]

section
variable (lz : Bool) (L : Nat) (okA : Spec.AllocOk) (get : Nat → UInt8) (len : Nat)
open Spec

/-! The four member loops of the reference decoder collect what `item` returns: whatever holds of every item read (at the
loop's depth `d`, with less fuel) holds of every member of the result. -/

theorem elems_forall {P : Item → Prop} {d F : Nat} (hI : ∀ f p x q, f < F → item lz L okA get len f p d = .ok x q → P x) :
    ∀ (f n p : Nat) (acc xs : List Item) (q : Nat), f ≤ F →
    elems lz L okA get len f n p d acc = .ok xs q → (∀ x ∈ acc, P x) → ∀ x ∈ xs, P x
  | 0, _, _, _, _, _, _, h, _ => by rw [elems] at h; cases h
  | f + 1, 0, _, acc, _, _, _, h, hacc => by
    rw [elems] at h; cases h
    exact fun x hx => hacc x (List.mem_reverse.mp hx)
  | f + 1, n + 1, p, acc, xs, q, hf, h, hacc => by
    rw [elems] at h
    cases hr : item lz L okA get len f p d with
    | err e r => rw [hr] at h; cases h
    | ok y r =>
      rw [hr] at h
      exact elems_forall hI f n r (y :: acc) xs q (by omega) h (List.forall_mem_cons.mpr ⟨hI f p y r (by omega) hr, hacc⟩)

theorem elemsI_forall {P : Item → Prop} {d F : Nat} (hI : ∀ f p x q, f < F → item lz L okA get len f p d = .ok x q → P x) :
    ∀ (f p : Nat) (acc xs : List Item) (q : Nat), f ≤ F →
    elemsI lz L okA get len f p d acc = .ok xs q → (∀ x ∈ acc, P x) → ∀ x ∈ xs, P x
  | 0, _, _, _, _, _, h, _ => by rw [elemsI] at h; cases h
  | f + 1, p, acc, xs, q, hf, h, hacc => by
    rw [elemsI] at h
    split at h
    · cases h
      exact fun x hx => hacc x (List.mem_reverse.mp hx)
    · cases hr : item lz L okA get len f p d with
      | err e r => rw [hr] at h; cases h
      | ok y r =>
        rw [hr] at h
        exact elemsI_forall hI f r (y :: acc) xs q (by omega) h (List.forall_mem_cons.mpr ⟨hI f p y r (by omega) hr, hacc⟩)

theorem pairs_forall {P : Item → Prop} {d F : Nat} (hI : ∀ f p x q, f < F → item lz L okA get len f p d = .ok x q → P x) :
    ∀ (f n p : Nat) (acc xs : List (Item × Item)) (q : Nat), f ≤ F →
    pairs lz L okA get len f n p d acc = .ok xs q → (∀ kv ∈ acc, P kv.1 ∧ P kv.2) → ∀ kv ∈ xs, P kv.1 ∧ P kv.2
  | 0, _, _, _, _, _, _, h, _ => by rw [pairs] at h; cases h
  | f + 1, 0, _, acc, _, _, _, h, hacc => by
    rw [pairs] at h; cases h
    exact fun x hx => hacc x (List.mem_reverse.mp hx)
  | f + 1, n + 1, p, acc, xs, q, hf, h, hacc => by
    rw [pairs] at h
    cases hr : item lz L okA get len f p d with
    | err e r => rw [hr] at h; cases h
    | ok k r =>
      rw [hr] at h
      simp only at h
      cases hr2 : item lz L okA get len f r d with
      | err e r' => rw [hr2] at h; cases h
      | ok v r' =>
        rw [hr2] at h
        exact pairs_forall hI f n r' ((k, v) :: acc) xs q (by omega) h
          (List.forall_mem_cons.mpr ⟨⟨hI f p k r (by omega) hr, hI f r v r' (by omega) hr2⟩, hacc⟩)

theorem pairsI_forall {P : Item → Prop} {d F : Nat} (hI : ∀ f p x q, f < F → item lz L okA get len f p d = .ok x q → P x) :
    ∀ (f p : Nat) (acc xs : List (Item × Item)) (q : Nat), f ≤ F →
    pairsI lz L okA get len f p d acc = .ok xs q → (∀ kv ∈ acc, P kv.1 ∧ P kv.2) → ∀ kv ∈ xs, P kv.1 ∧ P kv.2
  | 0, _, _, _, _, _, h, _ => by rw [pairsI] at h; cases h
  | f + 1, p, acc, xs, q, hf, h, hacc => by
    rw [pairsI] at h
    split at h
    · cases h
      exact fun x hx => hacc x (List.mem_reverse.mp hx)
    · cases hr : item lz L okA get len f p d with
      | err e r => rw [hr] at h; cases h
      | ok k r =>
        rw [hr] at h
        simp only at h
        cases hr2 : item lz L okA get len f r d with
        | err e r' => rw [hr2] at h; cases h
        | ok v r' =>
          rw [hr2] at h
          exact pairsI_forall hI f r' ((k, v) :: acc) xs q (by omega) h
            (List.forall_mem_cons.mpr ⟨⟨hI f p k r (by omega) hr, hI f r v r' (by omega) hr2⟩, hacc⟩)

theorem item_ok_depth (f : Nat) : ∀ (p d : Nat) (x : Item) (q : Nat), item lz L okA get len f p d = .ok x q → d ≤ L →
    d + openDepth x ≤ L := by
  induction f using Nat.strongRecOn with
  | ind f IH =>
    intro p d x q h hd
    cases f with
    | zero => rw [item] at h; cases h
    | succ f =>
    -- what is read one level down, with less fuel, fits into the levels left there
    have below : ¬ d ≥ L → ∀ f' p y r, f' < f + 1 → item lz L okA get len f' p (d + 1) = .ok y r → openDepth y ≤ L - (d + 1) :=
      fun hdl f' p y r hlt hr => by have := IH f' hlt p (d + 1) y r hr (by omega); omega
    rw [item] at h
    cases hh : headAt get len p with
    | nedata n => rw [hh] at h; cases h
    | error => rw [hh] at h; cases h
    | ok tok l =>
      rw [hh] at h
      simp only at h
      by_cases hok : okA tok = true
      · simp only [hok, Bool.not_true, Bool.false_eq_true, if_false] at h
        cases tok with
        | uint w v | negint w v | half b | single b | double b | bool b | null | undefined | bytes o n | text o n =>
          cases h; simpa [openDepth] using hd
        | brk => cases h
        | tag n =>
          simp only at h
          split at h
          · cases h
          · rename_i hdl
            cases hr : item lz L okA get len f (p + l) (d + 1) with
            | err e r => rw [hr] at h; cases h
            | ok y r =>
              rw [hr] at h; cases h
              have := below hdl f _ y _ (by omega) hr
              simp only [openDepth]; omega
        | array n =>
          simp only at h
          split at h
          · cases h; simpa [openDepth] using hd
          · split at h
            · cases h
            · rename_i hdl
              cases hr : elems lz L okA get len f n (p + l) (d + 1) [] with
              | err e r => rw [hr] at h; cases h
              | ok ys r =>
                rw [hr] at h; cases h
                have := depthList_le_of_mem _ ys
                  (elems_forall lz L okA get len (below hdl) f n _ [] ys _ (Nat.le_succ f) hr (by simp))
                have := openDepth_array_le ys
                omega
        | arrayStart =>
          simp only at h
          split at h
          · cases h
          · rename_i hdl
            cases hr : elemsI lz L okA get len f (p + l) (d + 1) [] with
            | err e r => rw [hr] at h; cases h
            | ok ys r =>
              rw [hr] at h; cases h
              have := depthList_le_of_mem _ ys
                (elemsI_forall lz L okA get len (below hdl) f _ [] ys _ (Nat.le_succ f) hr (by simp))
              simp only [openDepth]; omega
        | map n =>
          simp only at h
          split at h
          · cases h; simpa [openDepth] using hd
          · split at h
            · cases h
            · rename_i hdl
              cases hr : pairs lz L okA get len f n (p + l) (d + 1) [] with
              | err e r => rw [hr] at h; cases h
              | ok ys r =>
                rw [hr] at h; cases h
                have := depthPairs_le_of_mem _ ys
                  (pairs_forall lz L okA get len (below hdl) f n _ [] ys _ (Nat.le_succ f) hr (by simp))
                have := openDepth_map_le ys
                omega
        | mapStart =>
          simp only at h
          split at h
          · cases h
          · rename_i hdl
            cases hr : pairsI lz L okA get len f (p + l) (d + 1) [] with
            | err e r => rw [hr] at h; cases h
            | ok ys r =>
              rw [hr] at h; cases h
              have := depthPairs_le_of_mem _ ys
                (pairsI_forall lz L okA get len (below hdl) f _ [] ys _ (Nat.le_succ f) hr (by simp))
              simp only [openDepth]; omega
        | bytesStart | textStart =>
          simp only at h
          split at h
          · cases h
          · split at h
            · cases h; simp only [openDepth]; omega
            · cases h
      · simp only [hok, Bool.not_false, if_true] at h
        cases h

/-- C19, decoded trees are within the limit: for both reporting orders, every allocation predicate and every `L` (including 0) -/
theorem decode_ok_depth (t : Item) (k : Nat) (h : Spec.decode lz L okA get len = .ok t k) : openDepth t ≤ L := by
  unfold Spec.decode at h
  split at h
  · cases h
  · cases hr : item lz L okA get len (2 * len + 3) 0 0 with
    | err e r => rw [hr] at h; cases h
    | ok y r =>
      rw [hr] at h; cases h
      have := item_ok_depth lz L okA get len _ _ _ _ _ hr (Nat.zero_le _)
      omega

end

open Lemmas.Refine Lemmas.LoadFacts in
theorem load_ok_depth (L : Nat) (r0 : Model.LoadResult) (src : Array UInt8) (hsz : src.size < 2 ^ 56) (t : Item)
    (h : (Model.load ωT L r0 src).item = some t) : openDepth t ≤ L :=
  decode_ok_depth true L okGuard (getOf src) src.size t _ ((load_ok_iff src hsz L r0 t _).mp ⟨h, rfl⟩)

def ωAll : Heap.Oracle := fun _ => true

open Lemmas.Refine in
/-- bridge: under the all-granting heap oracle the value-level oracle `HB.load` is compared against is `ωT` -/
theorem orc_all (R0 : Nat) : (fun (i : Nat) (_ : Nat) => ωAll (R0 + i)) = ωT := rfl

end Lemmas.Depth

namespace Props.C19
open Heap Lemmas.Depth Lemmas.Refine
open Spec (Item openDepth)

/-- C19: every decoded tree has recursion depth at most `L + 1`.  `Model.serialize` and `Model.size` (and `Spec.encode`) recurse
structurally on the tree — one level per container / tag, chunks of a chunked string one level below it — so `rdepth t` is
their recursion depth, as it is the fuel `cbor_decref` needs (`decref_own_depth`). -/
theorem C19_rdepth_decoded (L : Nat) (r0 : Model.LoadResult) (src : Array UInt8) (hsz : src.size < 2 ^ 56) (t : Item)
    (h : (Model.load ωT L r0 src).item = some t) : openDepth t ≤ L ∧ rdepth t ≤ L + 1 := by
  have := load_ok_depth L r0 src hsz t h
  have := rdepth_le_openDepth t
  exact ⟨by assumption, by omega⟩

/-- a successful heap-level load (every allocation granted) hands out an exclusively owned tree for a value `t` of nesting
at most `L`, hence of recursion depth at most `L + 1` -/
theorem C19_loaded_depth (L : Nat) (h : H) (src : Array UInt8) (hsz : src.size < 2 ^ 56) (y : Ref) (res : Model.LoadResult) (h' : H)
    (hl : HB.load ωAll L h src = (some y, res, h')) :
    ∃ t, (∀ r0, (Model.load ωT L r0 src).item = some t) ∧ Own t h' y h.cells.length h'.cells.length ∧
      openDepth t ≤ L ∧ rdepth t ≤ L + 1 := by
  have r0 : Model.LoadResult := res
  have href := HB.hload_refines' ωAll L h r0 src (by omega)
  simp only [orc_all] at href
  rw [hl] at href
  cases hi : (Model.load ωT L r0 src).item with
  | none => cases (href.refused hi).1
  | some t =>
    obtain ⟨y', hy', ho⟩ := href.granted hi
    cases hy'
    have hd := C19_rdepth_decoded L r0 src hsz t hi
    refine ⟨t, fun r0' => ?_, ho, hd.1, hd.2⟩
    have : Model.load ωT L r0' src = Model.load ωT L r0 src := rfl
    rw [this]; exact hi

/-- C19, releasing any decoded tree recurses at most `L + 1` deep: `decref` with fuel (= recursion depth) `L + 1` on the result
of a successful load releases exactly the cells the load created and touches nothing else -/
theorem C19_release_depth (L : Nat) (h : H) (src : Array UInt8) (hsz : src.size < 2 ^ 56) (y : Ref) (res : Model.LoadResult) (h' : H)
    (hl : HB.load ωAll L h src = (some y, res, h')) :
    Freed h' (decref (L + 1) h' y) h.cells.length h'.cells.length := by
  obtain ⟨t, _, ho, _, hd⟩ := C19_loaded_depth L h src hsz y res h' hl
  exact decref_own_depth t (L + 1) h' y _ _ ho hd

/-- after that release the heap reads exactly as it did before the load, with no fault raised (no use after release, no fuel
exhaustion: `decref` reports running out of fuel as a fault) -/
theorem C19_release_restores (L : Nat) (h : H) (src : Array UInt8) (hsz : src.size < 2 ^ 56) (y : Ref) (res : Model.LoadResult) (h' : H)
    (hl : HB.load ωAll L h src = (some y, res, h')) :
    (decref (L + 1) h' y).fault = h.fault ∧ ∀ r : Nat, (decref (L + 1) h' y).get r = h.get r := by
  have hf := C19_release_depth L h src hsz y res h' hl
  have href := HB.hload_refines' ωAll L h res src (by omega)
  rw [hl] at href
  have hr := hf.restores href.old (get_none_of_ge _)
  exact ⟨hr.1.trans href.fault, hr.2⟩

-- the bound is attained: `[0]` decodes at `L = 1` and has recursion depth 2 (the array, then its member)
example : openDepth (.array [.uint .w8 0]) = 1 ∧ rdepth (.array [.uint .w8 0]) = 2 := by
  simp [openDepth, Spec.depthList, rdepth, rdepthL]

-- … and it is needed: on the heap layout of `[0]`, `decref` with fuel 1 runs out (fault), with fuel 2 it does not
example : (decref 1 ⟨[some ⟨.int false .w8 0, 1⟩, some ⟨.arr true [0] 1, 1⟩], 0, false⟩ 1).fault = true ∧
    (decref 2 ⟨[some ⟨.int false .w8 0, 1⟩, some ⟨.arr true [0] 1, 1⟩], 0, false⟩ 1).fault = false := by decide

end Props.C19
