import Cbor.Lemmas.Stream
/-!
The generated streaming decoder equals the RFC head reader.

`cbor_stream_decode` is one `switch` over the initial byte, which the translator renders as a chain of `if`s, one per
group of `case` labels.  `sd_rel` and `sd_ok` each walk that chain once, the initial byte staying a variable: each `case` is
examined knowing only its own label (`switch_case`), and the labels refused on the way are kept for the `default`.
-/
-- the simp sets below also list the lemmas for other spellings of the generated code (which one fires depends on how
-- the C is written), so some arguments are unused on any one translation
set_option linter.unusedSimpArgs false
namespace Lemmas
open Gen

/-- One `case` of a `switch` rendered as `if c then a else b`: `a` is checked under its label `c` alone, the rest of
the chain under the labels `N` refused so far. -/
theorem switch_case {α : Type} {P : α → Prop} {N c : Prop} [Decidable c] {a b : α}
    (ha : c → P a) (hb : N ∧ ¬c → P b) : N → P (if c then a else b) := by
  intro hN
  split
  · exact ha ‹_›
  · exact hb ⟨hN, ‹_›⟩

/-- **One call of the generated `cbor_stream_decode` is exactly the RFC 8949 head reader**, for every buffer, offset and
size argument, every initial byte, every truncation (a refused claim saturates `required` at `SIZE_MAX`, as `SdRel` says). -/
theorem sd_rel (src : Array UInt8) (off : Nat) (n : UInt64) :
    SdRel off (cbor_stream_decode src off n) (Spec.decodeHead (Spec.getA src off) n.toNat) := by
  have hg : (Spec.getA src off 0).toNat = (src.getD off 0).toNat := by simp only [Spec.getA, Nat.add_zero]
  unfold cbor_stream_decode
  by_cases h1 : n.toNat = 0
  · -- empty buffer: the claim of the initial byte is refused
    simp only [claim_first_empty h1, h1, Spec.decodeHead, Bool.not_false, ↓reduceIte]
    exact sdRel_short (req := 1) (rd := 0)
  simp only [claim_first h1, Bool.not_true, Bool.false_eq_true, ↓reduceIte]
  -- `switch_case` carries the labels refused so far as a hypothesis `N`; the chain starts with none refused
  refine (?_ : True → _) trivial
  repeat (
    refine switch_case (P := (SdRel off · (Spec.decodeHead (Spec.getA src off) n.toNat))) (fun hc => ?_) ?_
    rotate_left)
  · -- `default`: the labels cover 0..255
    intro hN
    have := (src.getD off 0).toNat_lt
    simp only [decide_eq_true_eq, beq_iff_eq, ← Int.cast_ofNat_Int, Int.natCast_inj, Int.ofNat_le, Int.ofNat_lt] at hN
    omega
  -- the label `hc`: one byte value or a range of byte values, as a fact about the natural number
  all_goals (
    simp only [decide_eq_true_eq, beq_iff_eq, ← Int.cast_ofNat_Int, Int.natCast_inj, Int.ofNat_le, Int.ofNat_lt] at hc)
  all_goals first
    | -- a reserved or unsupported byte
      with_reducible exact sdRel_error (Spec.decodeHead_reserved (by omega) rfl rfl (by omega))
    | -- a single byte: the specification is evaluated at that byte and compared with the body of the `case`
      (simp only [decodeHead_pos (hg.trans hc) h1, Spec.decodeMtArg, Spec.decodeMt7, Spec.decodeIndef, Spec.argBytes,
        Spec.widthOf, Spec.tokOfArg, beNat_1, beNat_2, beNat_4, beNat_8,
        Nat.reduceDiv, Nat.reduceMod, Nat.reduceEqDiff, Nat.reduceLT, Nat.reduceLeDiff, Nat.reduceAdd, ↓reduceIte]
       first
        | with_reducible refine sdRel_emit ?_ ?_
        | with_reducible refine sdRel_claim h1 ?_ ?_
        | with_reducible refine sdRel_claim₂ h1 ?_ ?_ ?_
       all_goals simp only [tokMatch, toTok, UInt8.toNat_toUInt64, UInt16.toNat_toUInt64, UInt32.toNat_toUInt64,
         UInt64.reduceToNat, Nat.reduceAdd, beq_self_eq_true, Nat.add_sub_cancel_left, Nat.add_assoc,
         _cbor_load_float, _cbor_load_double, load_half_eq, load16_lt, decide_true, Bool.and_self])
    | -- a range of bytes: major type `b / 32` with the argument `b % 32` in the initial byte
      (rw [decodeHead_imm hg h1 (by omega)]
       simp (disch := omega) only [tokOfArg_0, tokOfArg_1, tokOfArg_2, tokOfArg_3, tokOfArg_4, tokOfArg_5, tokOfArg_6,
         Spec.widthOf, Nat.reduceEqDiff, ↓reduceIte]
       first
        | with_reducible refine sdRel_emit ?_ ?_
        | with_reducible refine sdRel_claim h1 ?_ ?_
       all_goals simp (disch := omega) only [tokMatch, toTok, _cbor_load_uint8, toU8_sub, toU64_sub, Int.reduceToNat,
         UInt64.reduceToNat, beq_iff_eq, Spec.Tok.uint.injEq, Spec.Tok.negint.injEq, Spec.Tok.bytes.injEq,
         Spec.Tok.text.injEq, Spec.Tok.array.injEq, Spec.Tok.map.injEq, Spec.Tok.tag.injEq, true_and,
         Nat.add_sub_cancel_left]
       all_goals omega)

set_option linter.unusedVariables false in
/-- `sd_rel` under a bound on the size argument.  The proof does not need the bound: `sd_rel` is the statement without it. -/
theorem sd_spec (src : Array UInt8) (off : Nat) (n : UInt64) (hl : n.toNat < 2^64 - 1) :
    SdRel off (cbor_stream_decode src off n) (Spec.decodeHead (Spec.getA src off) n.toNat) :=
  sd_rel src off n

theorem sd_rel_nat (src : Array UInt8) (off n : Nat) (hn : n < 2 ^ 64) :
    SdRel off (cbor_stream_decode src off (UInt64.ofNat n)) (Spec.decodeHead (Spec.getA src off) n) := by
  have h := sd_rel src off (UInt64.ofNat n)
  rwa [UInt64.toNat_ofNat_of_lt' hn] at h

theorem sd_events (src : Array UInt8) (off : Nat) (n : UInt64) :
    (cbor_stream_decode src off n).2 = [] ∨
    ∃ e, (cbor_stream_decode src off n).2 = [e] ∧ (cbor_stream_decode src off n).1.status = CBOR_DECODER_FINISHED :=
  (sd_rel src off n).events

/-- **No undefined behaviour and no out-of-bounds read in one call of the generated decoder**: every side
condition collected by the translator (index inside the array for every byte read, every signed operation
in range, every shift amount in range) holds whenever the size argument does not overstate the buffer. -/
theorem sd_ok (src : Array UInt8) (off : Nat) (n : UInt64) (h : off + n.toNat ≤ src.size) :
    cbor_stream_decode.ok src off n = true := by
  unfold cbor_stream_decode.ok
  by_cases h1 : n.toNat = 0
  · simp only [claim_first_empty h1, claim_ok, Bool.not_false, ↓reduceIte]
  have hoff : off < src.size := by omega
  -- what does not depend on the case: the claims themselves and the read of the initial byte
  simp only [claim_first h1, claim_ok, hoff, load8_ok src off hoff, Bool.not_true, Bool.false_eq_true, ↓reduceIte, Bool.true_and,
    Bool.and_true, decide_true, ite_self]
  refine (?_ : True → _) trivial   -- as in `sd_rel`: no label refused yet
  -- no body needs its label: what it reads lies inside the bytes it has claimed
  repeat (
    refine switch_case (P := (· = true)) (fun _ => ?_) ?_
    rotate_left)
  · exact fun _ => rfl
  all_goals first
    | rfl
    | exact fits_u8_sub _ _ (by decide)
    | (refine ok_claim h1 (fun hk => ?_)
       simp only [UInt64.reduceToNat] at hk
       simp (disch := omega) only [load8_ok, load16_ok, load32_ok, load64_ok, loadf_ok, loadd_ok, loadh_ok])

end Lemmas
