import Cbor.Model.Serialize
import Cbor.Props.C15
/-!
# The serializer model writes exactly `Spec.encode`, or returns 0 without leaving the buffer

Every case of the model has the same shape: a part is serialized behind what has been written so far, and if it
reports 0 the whole call reports 0, otherwise the rest goes on behind it.  `ser_then` is that step, proved once;
`ser_bind` is its form for the first part of a call.
-/
namespace Lemmas.Ser
open Model Spec Gen

/-- `buf'` has the size of `buf` and agrees with it outside `[off, off + n)` -/
def Within (buf buf' : Array UInt8) (off n : Nat) : Prop :=
  buf'.size = buf.size ∧ ∀ i, (i < off ∨ off + n ≤ i) → buf'[i]? = buf[i]?

theorem Within.refl (buf : Array UInt8) (off n : Nat) : Within buf buf off n := ⟨rfl, fun _ _ => rfl⟩

theorem Within.trans {a b c : Array UInt8} {off n off' n' : Nat} (h1 : Within a b off n) (h2 : Within b c off' n')
    (ho : off ≤ off') (hn : off' + n' ≤ off + n) : Within a c off n :=
  ⟨h2.1.trans h1.1, fun i hi => (h2.2 i (by omega)).trans (h1.2 i hi)⟩

theorem within_writeList (buf : Array UInt8) (off n : Nat) (bs : List UInt8) (h : bs.length ≤ n) :
    Within buf (writeList buf off bs) off n :=
  ⟨writeList_size _ _ _, fun i hi => writeList_getElem?_out _ _ _ _ (by omega)⟩

theorem writeList_append (buf : Array UInt8) (off : Nat) (a b : List UInt8) :
    writeList buf off (a ++ b) = writeList (writeList buf off a) (off + a.length) b := by
  induction a generalizing buf off with
  | nil => simp [writeList]
  | cons x xs ih => simp only [List.cons_append, writeList, List.length_cons]; rw [ih]; congr 1; omega

theorem copyInto_eq (buf : Array UInt8) (off : Nat) (bs : List UInt8) : copyInto buf off bs = writeList buf off bs := by
  induction bs generalizing buf off with
  | nil => rfl
  | cons b bs ih => simp [copyInto, writeList, ih]

/-- outcome of an encoder / serializer call that is meant to emit `bs` into `n` bytes at `off` -/
def SerSpec (buf : Array UInt8) (off : Nat) (n : UInt64) (bs : List UInt8) (r : UInt64 × Array UInt8) : Prop :=
  (bs.length ≤ n.toNat → r = (UInt64.ofNat bs.length, writeList buf off bs)) ∧
  (n.toNat < bs.length → r.1 = 0 ∧ Within buf r.2 off n.toNat)

theorem encRes_spec (buf : Array UInt8) (off : Nat) (n : UInt64) (bs : List UInt8) :
    SerSpec buf off n bs (encRes buf off n bs) :=
  ⟨fun h => encRes_of_le h buf off, fun h => by rw [encRes_of_lt h]; exact ⟨rfl, Within.refl _ _ _⟩⟩

theorem SerSpec.fits {buf : Array UInt8} {off : Nat} {n : UInt64} {bs : List UInt8} {r : UInt64 × Array UInt8}
    (h : SerSpec buf off n bs r) (hf : bs.length ≤ n.toNat) : r = (UInt64.ofNat bs.length, writeList buf off bs) := h.1 hf

theorem SerSpec.short {buf : Array UInt8} {off : Nat} {n : UInt64} {bs : List UInt8} {r : UInt64 × Array UInt8}
    (h : SerSpec buf off n bs r) (hs : n.toNat < bs.length) : r.1 = 0 ∧ Within buf r.2 off n.toNat := h.2 hs

theorem serSpec_done (buf : Array UInt8) (off : Nat) (n : UInt64) (bs : List UInt8) (h : bs.length ≤ n.toNat) :
    SerSpec buf off n bs (UInt64.ofNat bs.length, writeList buf off bs) :=
  ⟨fun _ => rfl, fun h' => by omega⟩

theorem u8_of (v : Nat) (h : v < 256) : (UInt8.ofNat v).toNat = v := UInt8.toNat_ofNat_of_lt' h
theorem u16_of (v : Nat) (h : v < 65536) : (UInt16.ofNat v).toNat = v := UInt16.toNat_ofNat_of_lt' h
theorem u32_of (v : Nat) (h : v < 4294967296) : (UInt32.ofNat v).toNat = v := UInt32.toNat_ofNat_of_lt' h

/-- a count that fits in the `n` bytes of the buffer, as the `size_t` the C code computes with -/
theorem sub_ofNat (n : UInt64) (k : Nat) (h : k ≤ n.toNat) :
    (UInt64.ofNat k).toNat = k ∧ (0 < k → UInt64.ofNat k ≠ 0) ∧ (n - UInt64.ofNat k).toNat = n.toNat - k := by
  have hk := ofNat_toNat_small k (by have := n.toNat_lt; omega)
  refine ⟨hk, fun h0 e => ?_, ?_⟩
  · rw [e] at hk; simp at hk; omega
  · rw [UInt64.toNat_sub_of_le _ _ (UInt64.le_iff_toNat_le.mpr (by rw [hk]; exact h)), hk]

/-- Sequential composition: `pre` has been written; the part `xb` is serialized behind it with result `r`; if that
reports 0 so does the whole, otherwise `k` goes on behind `pre ++ xb`. -/
theorem ser_then (buf0 : Array UInt8) (off : Nat) (n : UInt64) (pre xb rest : List UInt8) (r : UInt64 × Array UInt8)
    (k : Array UInt8 → UInt64 → UInt64 × Array UInt8)
    (hpre : pre.length ≤ n.toNat) (hxb : 0 < xb.length) (hlen : (pre ++ (xb ++ rest)).length < 2 ^ 64)
    (hr : SerSpec (writeList buf0 off pre) (off + (UInt64.ofNat pre.length).toNat) (n - UInt64.ofNat pre.length) xb r)
    (hk : (pre ++ xb).length ≤ n.toNat → (pre ++ xb ++ rest).length < 2 ^ 64 →
      SerSpec buf0 off n (pre ++ xb ++ rest) (k (writeList buf0 off (pre ++ xb)) (UInt64.ofNat (pre ++ xb).length))) :
    SerSpec buf0 off n (pre ++ (xb ++ rest)) (if r.1 = 0 then (0, r.2) else k r.2 (UInt64.ofNat pre.length + r.1)) := by
  rw [← List.append_assoc] at hlen ⊢
  obtain ⟨hpl, -, hsub⟩ := sub_ofNat n pre.length hpre
  rw [hpl] at hr
  have hl : pre.length + xb.length + rest.length < 2 ^ 64 := by simpa only [List.length_append] using hlen
  by_cases hf : xb.length ≤ n.toNat - pre.length
  · rw [hr.fits (hsub ▸ hf)]
    simp only [if_neg ((sub_ofNat n xb.length (by omega)).2.1 hxb)]
    rw [← writeList_append, ← UInt64.ofNat_add, ← List.length_append]
    exact hk (by rw [List.length_append]; omega) hlen
  · have e := hr.short (by omega)
    rw [if_pos e.1]
    exact ⟨fun h => by simp only [List.length_append] at h; omega,
      fun _ => ⟨rfl, (within_writeList buf0 off n.toNat pre hpre).trans e.2 (by omega) (by omega)⟩⟩

theorem ser_last (buf0 : Array UInt8) (off : Nat) (n : UInt64) (pre xb : List UInt8) (r : UInt64 × Array UInt8)
    (hpre : pre.length ≤ n.toNat) (hxb : 0 < xb.length) (hlen : (pre ++ xb).length < 2 ^ 64)
    (hr : SerSpec (writeList buf0 off pre) (off + (UInt64.ofNat pre.length).toNat) (n - UInt64.ofNat pre.length) xb r) :
    SerSpec buf0 off n (pre ++ xb) (if r.1 = 0 then (0, r.2) else (UInt64.ofNat pre.length + r.1, r.2)) := by
  have := ser_then buf0 off n pre xb [] r (fun b w => (w, b)) hpre hxb (by simpa using hlen) hr
    (fun h _ => by rw [List.append_nil]; exact serSpec_done _ _ _ _ h)
  simpa using this

theorem ser_bind (buf : Array UInt8) (off : Nat) (n : UInt64) (a rest : List UInt8) (r1 : UInt64 × Array UInt8)
    (k : Array UInt8 → UInt64 → UInt64 × Array UInt8)
    (h1 : SerSpec buf off n a r1) (ha : 0 < a.length)
    (hk : a.length ≤ n.toNat → SerSpec buf off n (a ++ rest) (k (writeList buf off a) (UInt64.ofNat a.length))) :
    SerSpec buf off n (a ++ rest) (if r1.1 = 0 then (0, r1.2) else k r1.2 r1.1) := by
  by_cases hf : a.length ≤ n.toNat
  · rw [h1.fits hf, if_neg ((sub_ofNat n a.length hf).2.1 ha)]
    exact hk hf
  · have e := h1.short (by omega)
    rw [if_pos e.1]
    exact ⟨fun h => by simp only [List.length_append] at h; omega, fun _ => ⟨rfl, e.2⟩⟩

mutual
/-- value ranges of the stored scalars (what the construction API and the decoder can produce) -/
def Valid : Item → Prop
  | .uint w v => v < 2 ^ (8 * w.bytes)
  | .negint w v => v < 2 ^ (8 * w.bytes)
  | .array xs => ValidL xs
  | .arrayI xs => ValidL xs
  | .map kvs => ValidP kvs
  | .mapI kvs => ValidP kvs
  | .tag n x => n < 2 ^ 64 ∧ Valid x
  | .simple v => v < 256
  | .half f => ∃ h, h < 65536 ∧ f = (Ext.decodeHalfBits h).toNat     -- holds a half-representable value (or a NaN)
  | .single b => b < 2 ^ 32
  | .double b => b < 2 ^ 64
  | _ => True
def ValidL : List Item → Prop
  | [] => True
  | x :: xs => Valid x ∧ ValidL xs
def ValidP : List (Item × Item) → Prop
  | [] => True
  | (k, v) :: r => Valid k ∧ Valid v ∧ ValidP r
end

theorem canon32_spec (b : UInt32) : (canon32 b).toNat = Spec.Float.canonSingle b.toNat := by
  unfold canon32 Spec.Float.canonSingle
  rw [Props.C15.isNaN32_spec]
  split <;> rfl

theorem canon64_spec (b : UInt64) : (canon64 b).toNat = Spec.Float.canonDouble b.toNat := by
  unfold canon64 Spec.Float.canonDouble
  rw [Props.C15.isNaN64_spec]
  split <;> rfl

theorem halfRes_spec (h : Nat) (hh : h < 65536) :
    (halfRes (Ext.decodeHalfBits h)).toNat = Spec.Float.singleToHalf (Ext.decodeHalfBits h).toNat := by
  rw [singleToHalf_decode h hh]
  exact halfRes_decode h hh

theorem serString_spec (isText : Bool) (data : List UInt8) (buf : Array UInt8) (off : Nat) (n : UInt64)
    (hlen : (Spec.head (if isText then 3 else 2) data.length ++ data).length < 2 ^ 64) :
    SerSpec buf off n (Spec.head (if isText then 3 else 2) data.length ++ data) (serString isText data buf off n) := by
  have hdl := ofNat_toNat_small data.length (by simp only [List.length_append] at hlen; omega)
  have hr : (if isText then cbor_encode_string_start (UInt64.ofNat data.length) buf off n
             else cbor_encode_bytestring_start (UInt64.ofNat data.length) buf off n) =
            encRes buf off n (Spec.head (if isText then 3 else 2) data.length) := by
    cases isText <;> simp [pub_string_start, pub_bytestring_start, hdl]
  have hpos := head_pos (if isText then 3 else 2) data.length
  unfold serString
  simp only [hr]
  generalize Spec.head (if isText then 3 else 2) data.length = hd at hlen hpos ⊢
  have h1 := encRes_spec buf off n hd
  generalize encRes buf off n hd = r1 at h1 ⊢
  -- the guard `r > 0 && n - r ≥ len` of the C code, as the two tests it stands for
  have hg : (if (r1.1 > 0 && n - r1.1 ≥ UInt64.ofNat data.length) = true
              then (r1.1 + UInt64.ofNat data.length, copyInto r1.2 (off + r1.1.toNat) data) else (0, r1.2)) =
            if r1.1 = 0 then (0, r1.2) else
              if n - r1.1 ≥ UInt64.ofNat data.length then (r1.1 + UInt64.ofNat data.length, copyInto r1.2 (off + r1.1.toNat) data)
              else (0, r1.2) := by
    by_cases h0 : r1.1 = 0
    · simp [h0]
    · simp [h0, UInt64.pos_iff_ne_zero.mpr h0]
  rw [hg]
  refine ser_bind buf off n hd data r1
    (fun b w => if n - w ≥ UInt64.ofNat data.length then (w + UInt64.ofNat data.length, copyInto b (off + w.toNat) data) else (0, b))
    h1 hpos (fun hf => ?_)
  -- the payload is copied when it fits behind the head
  obtain ⟨hal, -, hsub⟩ := sub_ofNat n hd.length hf
  simp only [List.length_append] at hlen
  by_cases hp : data.length ≤ n.toNat - hd.length
  · rw [if_pos (UInt64.le_iff_toNat_le.mpr (by rw [hsub, hdl]; exact hp)), copyInto_eq, hal, ← writeList_append,
      ← UInt64.ofNat_add, ← List.length_append]
    exact serSpec_done _ _ _ _ (by simp only [List.length_append]; omega)
  · rw [if_neg (fun h => hp (by have := UInt64.le_iff_toNat_le.mp h; rw [hsub, hdl] at this; exact this))]
    exact ⟨fun h => by simp only [List.length_append] at h; omega, fun _ => ⟨rfl, within_writeList buf off n.toNat hd hf⟩⟩

theorem serChunks_spec (isText : Bool) : ∀ (cs : List (List UInt8)) (buf0 : Array UInt8) (off : Nat) (n : UInt64) (pre : List UInt8),
    pre.length ≤ n.toNat → (pre ++ encodeChunks (if isText then 3 else 2) cs).length < 2 ^ 64 →
    SerSpec buf0 off n (pre ++ encodeChunks (if isText then 3 else 2) cs)
      (serChunks isText cs (writeList buf0 off pre) off n (UInt64.ofNat pre.length))
  | [], buf0, off, n, pre, hfit, _ => by
    simp only [encodeChunks, List.append_nil, serChunks]
    exact serSpec_done _ _ _ _ hfit
  | c :: cs, buf0, off, n, pre, hfit, hlen => by
    simp only [encodeChunks, serChunks] at hlen ⊢
    exact ser_then buf0 off n pre (Spec.head (if isText then 3 else 2) c.length ++ c) _ _
      (fun b w => serChunks isText cs b off n w) hfit
      (by rw [List.length_append]; exact Nat.add_pos_left (head_pos _ _) _) hlen
      (serString_spec isText c _ _ _ (by simp only [List.length_append] at hlen ⊢; omega))
      (fun h hl => serChunks_spec isText cs buf0 off n _ h hl)

theorem encode_pos (t : Item) : 0 < (encode t).length := by
  cases t <;> simp only [encode, List.length_append, List.length_cons]
  case uint | negint | simple | half | single | double => exact headBytes_pos _ _ _
  case bytes | text | array | map | tag => exact Nat.add_pos_left (head_pos _ _) _
  all_goals omega

theorem encodeList_len : ∀ (xs : List Item), xs.length ≤ (encodeList xs).length
  | [] => by simp [encodeList]
  | x :: xs => by
    simp only [encodeList, List.length_append, List.length_cons]
    have := encode_pos x; have := encodeList_len xs; omega

theorem encodePairs_len : ∀ (kvs : List (Item × Item)), kvs.length ≤ (encodePairs kvs).length
  | [] => by simp [encodePairs]
  | (k, v) :: r => by
    simp only [encodePairs, List.length_append, List.length_cons]
    have := encode_pos k; have := encodePairs_len r; omega

theorem intAi_w8 (v : Nat) : intAi .w8 v = ai8 v := rfl

/-- indefinite-length item: start byte, a member loop, then the break byte -/
theorem indef_wrap (buf : Array UInt8) (off : Nat) (n : UInt64) (sb : UInt8) (body : List UInt8)
    (loop : Array UInt8 → UInt64 → UInt64 × Array UInt8) (hlen : (([sb] ++ body) ++ [0xFF]).length < 2 ^ 64)
    (hloop : 1 ≤ n.toNat → SerSpec buf off n ([sb] ++ body) (loop (writeList buf off [sb]) (UInt64.ofNat 1))) :
    SerSpec buf off n (([sb] ++ body) ++ [0xFF])
      (let r := encRes buf off n [sb]
       if r.1 = 0 then (0, r.2) else
       let c := loop r.2 r.1
       if c.1 = 0 then (0, c.2) else
       let b := cbor_encode_break c.2 (off + c.1.toNat) (n - c.1)
       if b.1 = 0 then (0, b.2) else (c.1 + b.1, b.2)) := by
  rw [List.append_assoc] at hlen ⊢
  refine ser_bind buf off n [sb] (body ++ [0xFF]) _
    (fun b w =>
      let c := loop b w
      if c.1 = 0 then (0, c.2) else
      let b := cbor_encode_break c.2 (off + c.1.toNat) (n - c.1)
      if b.1 = 0 then (0, b.2) else (c.1 + b.1, b.2))
    (encRes_spec _ _ _ _) (by simp) (fun hf => ?_)
  rw [← List.append_assoc] at hlen ⊢
  exact ser_bind buf off n ([sb] ++ body) [0xFF] _
    (fun b w =>
      let br := cbor_encode_break b (off + w.toNat) (n - w)
      if br.1 = 0 then (0, br.2) else (w + br.1, br.2))
    (hloop hf) (by simp)
    (fun hf' => ser_last buf off n ([sb] ++ body) [0xFF] _ hf' (by simp) hlen (by rw [pub_break]; exact encRes_spec _ _ _ _))

mutual
theorem ser_item : ∀ (t : Item), Valid t → (encode t).length < 2 ^ 64 → ∀ (buf : Array UInt8) (off : Nat) (n : UInt64),
    SerSpec buf off n (encode t) (serialize t buf off n)
  | .uint w v, hv, _, buf, off, n | .negint w v, hv, _, buf, off, n => by
    cases w <;> simp only [Valid, Width.bytes] at hv <;>
      simp (disch := omega) only [serialize, encode, intAi, ai8, pub_uint8, pub_uint16, pub_uint32, pub_uint64,
        pub_negint8, pub_negint16, pub_negint32, pub_negint64, u8_of, u16_of, u32_of, ofNat_toNat_small] <;>
      exact encRes_spec _ _ _ _
  | .bytes b, _, hl, buf, off, n => by
    simp only [serialize, encode] at hl ⊢
    exact serString_spec false b buf off n hl
  | .text b, _, hl, buf, off, n => by
    simp only [serialize, encode] at hl ⊢
    exact serString_spec true b buf off n hl
  | .simple v, hv, _, buf, off, n => by
    simp only [Valid] at hv
    simp only [serialize, encode, pub_ctrl, u8_of v hv, ai8]; exact encRes_spec _ _ _ _
  | .single b, hv, _, buf, off, n => by
    simp only [Valid] at hv
    simp only [serialize, encode, pub_single, canon32_spec, u32_of b (by omega)]; exact encRes_spec _ _ _ _
  | .double b, hv, _, buf, off, n => by
    simp only [Valid] at hv
    simp only [serialize, encode, pub_double, canon64_spec, ofNat_toNat_small b hv]; exact encRes_spec _ _ _ _
  | .half f, hv, _, buf, off, n => by
    simp only [Valid] at hv
    obtain ⟨h, hh, rfl⟩ := hv
    have e : UInt32.ofNat (Ext.decodeHalfBits h).toNat = Ext.decodeHalfBits h := by simp
    simp only [serialize, encode, pub_half, e, halfRes_spec h hh]; exact encRes_spec _ _ _ _
  | .tag t x, hv, hl, buf, off, n => by
    simp only [Valid] at hv
    simp only [serialize, encode, pub_tag, ofNat_toNat_small t hv.1] at hl ⊢
    have hx : (encode x).length < 2 ^ 64 := by simp only [List.length_append] at hl; omega
    exact ser_bind buf off n (Spec.head 6 t) (encode x) _
      (fun b w =>
        let i := serialize x b (off + w.toNat) (n - w)
        if i.1 = 0 then (0, i.2) else (w + i.1, i.2))
      (encRes_spec _ _ _ _) (head_pos _ _)
      (fun hf => ser_last buf off n _ _ _ hf (encode_pos x) hl (ser_item x hv.2 hx _ _ _))
  | .bytesI cs, _, hl, buf, off, n => by
    simp only [encode] at hl ⊢
    have := indef_wrap buf off n 0x5F (encodeChunks 2 cs) (fun b w => serChunks false cs b off n w) hl
      (fun hfit => serChunks_spec false cs buf off n [0x5F] hfit (by simp at hl ⊢; omega))
    simpa [serialize, serIndefString, pub_indef_bytestring_start] using this
  | .textI cs, _, hl, buf, off, n => by
    simp only [encode] at hl ⊢
    have := indef_wrap buf off n 0x7F (encodeChunks 3 cs) (fun b w => serChunks true cs b off n w) hl
      (fun hfit => serChunks_spec true cs buf off n [0x7F] hfit (by simp at hl ⊢; omega))
    simpa [serialize, serIndefString, pub_indef_string_start] using this
  | .array xs, hv, hl, buf, off, n => by
    simp only [Valid] at hv
    simp only [encode] at hl ⊢
    have hxl : xs.length < 2 ^ 64 := by
      have := encodeList_len xs; simp only [List.length_append] at hl; omega
    have := ser_bind buf off n (Spec.head 4 xs.length) (encodeList xs) _ (fun b w => serList xs b off n w)
      (encRes_spec _ _ _ _) (head_pos _ _) (fun hfit => ser_list xs hv buf off n _ (head_ne_nil _ _) hfit hl)
    simpa [serialize, pub_array_start, ofNat_toNat_small xs.length hxl] using this
  | .arrayI xs, hv, hl, buf, off, n => by
    simp only [Valid] at hv
    simp only [encode] at hl ⊢
    have := indef_wrap buf off n 0x9F (encodeList xs) (fun b w => serList xs b off n w) hl
      (fun hfit => ser_list xs hv buf off n [0x9F] (by simp) hfit (by simp only [List.length_append] at hl ⊢; omega))
    simpa [serialize, pub_indef_array_start] using this
  | .map kvs, hv, hl, buf, off, n => by
    simp only [Valid] at hv
    simp only [encode] at hl ⊢
    have hxl : kvs.length < 2 ^ 64 := by
      have := encodePairs_len kvs; simp only [List.length_append] at hl; omega
    have := ser_bind buf off n (Spec.head 5 kvs.length) (encodePairs kvs) _ (fun b w => serPairs kvs b off n w)
      (encRes_spec _ _ _ _) (head_pos _ _) (fun hfit => ser_pairs kvs hv buf off n _ (head_ne_nil _ _) hfit hl)
    simpa [serialize, pub_map_start, ofNat_toNat_small kvs.length hxl] using this
  | .mapI kvs, hv, hl, buf, off, n => by
    simp only [Valid] at hv
    simp only [encode] at hl ⊢
    have := indef_wrap buf off n 0xBF (encodePairs kvs) (fun b w => serPairs kvs b off n w) hl
      (fun hfit => ser_pairs kvs hv buf off n [0xBF] (by simp) hfit (by simp only [List.length_append] at hl ⊢; omega))
    simpa [serialize, pub_indef_map_start] using this

theorem ser_list : ∀ (xs : List Item), ValidL xs → ∀ (buf0 : Array UInt8) (off : Nat) (n : UInt64) (pre : List UInt8),
    pre ≠ [] → pre.length ≤ n.toNat → (pre ++ encodeList xs).length < 2 ^ 64 →
    SerSpec buf0 off n (pre ++ encodeList xs) (serList xs (writeList buf0 off pre) off n (UInt64.ofNat pre.length))
  | [], _, buf0, off, n, pre, _, hfit, _ => by
    simp only [encodeList, List.append_nil, serList]
    exact serSpec_done _ _ _ _ hfit
  | x :: xs, hv, buf0, off, n, pre, hne, hfit, hlen => by
    simp only [ValidL] at hv
    simp only [encodeList, serList] at hlen ⊢
    exact ser_then buf0 off n pre (encode x) _ _ (fun b w => serList xs b off n w) hfit (encode_pos x) hlen
      (ser_item x hv.1 (by simp only [List.length_append] at hlen; omega) _ _ _)
      (fun h hl => ser_list xs hv.2 buf0 off n _ (by simp [hne]) h hl)

theorem ser_pairs : ∀ (kvs : List (Item × Item)), ValidP kvs → ∀ (buf0 : Array UInt8) (off : Nat) (n : UInt64) (pre : List UInt8),
    pre ≠ [] → pre.length ≤ n.toNat → (pre ++ encodePairs kvs).length < 2 ^ 64 →
    SerSpec buf0 off n (pre ++ encodePairs kvs) (serPairs kvs (writeList buf0 off pre) off n (UInt64.ofNat pre.length))
  | [], _, buf0, off, n, pre, _, hfit, _ => by
    simp only [encodePairs, List.append_nil, serPairs]
    exact serSpec_done _ _ _ _ hfit
  | (k, v) :: r, hv, buf0, off, n, pre, hne, hfit, hlen => by
    simp only [ValidP] at hv
    simp only [encodePairs, serPairs, List.append_assoc (encode k)] at hlen ⊢
    exact ser_then buf0 off n pre (encode k) _ _
      (fun b w =>
        let b' := serialize v b (off + w.toNat) (n - w)
        if b'.1 = 0 then (0, b'.2) else serPairs r b'.2 off n (w + b'.1))
      hfit (encode_pos k) hlen
      (ser_item k hv.1 (by simp only [List.length_append] at hlen; omega) _ _ _)
      (fun h hl =>
        ser_then buf0 off n _ (encode v) _ _ (fun b w => serPairs r b off n w) h (encode_pos v) hl
          (ser_item v hv.2.1 (by simp only [List.length_append] at hl; omega) _ _ _)
          (fun h' hl' => ser_pairs r hv.2.2 buf0 off n _ (by simp [hne]) h' hl'))
end
end Lemmas.Ser
