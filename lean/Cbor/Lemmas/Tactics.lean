/-!
Proof-side robustness kit for lemmas about the generated definitions (`Cbor.Gen.*`).

The generated text changes whenever the C source is rewritten, even when the rewrite preserves behaviour
(`n >= 1` / `n > 0` / `!(n < 1)`, `if (c) A else B` / `if (!c) B else A`, a hoisted sub-expression, `x >> 8` / `x / 256` …).
Lemmas about a generated function therefore never mention the shape of its term.  They `unfold` it, and then

* where nothing is known about which branch is taken (encoders, loaders, size helpers): split every `if`
  (`repeat' split`), turn every branch condition into a fact about natural numbers (`cnorm`), and close the branches
  with `omega` / structural comparison of the stores (`stores_eq`) / `Nat` bit lemmas (`bits_to_arith`).  Where two
  cascades stand side by side (a generated function against its reference or its specification: `Props.C20.C20_header_size`,
  `bridge_tac` in `Lemmas.Utf8`) `cnorm` runs *before* the split, so that the guards are normalised once and the
  contradictory combinations of branches die in `omega` without further work;
* where the tags that select the branch are known (the serializers over `ItemRec`, `Props.LeafSerializers`): rewrite the
  accessor calls to fields by their theorems, let `simp` evaluate the guards that have thereby become closed, and split
  only what is left.

`simp only []` after an `unfold` ζ/β-reduces the `let`s of the generated text, so that `split` sees the `if`s under them.
-/
namespace Lemmas

theorem pair_eq {α β} {a a' : α} {b b' : β} (h1 : a = a') (h2 : b = b') : (a, b) = (a', b') := by
  subst h1; subst h2; rfl

theorem set_eq {b b' : Array UInt8} {i i' : Nat} {x x' : UInt8} (hb : b = b') (hi : i = i') (hx : x = x') :
    b.setIfInBounds i x = b'.setIfInBounds i' x' := by
  subst hb; subst hi; subst hx; rfl

/-- Normalise branch conditions, whatever their spelling (`decide (a ≤ b)`, `!decide (a < b)`, `a != 0`, `a == b`,
`c₁ || c₂`, `≥`/`>`), in all hypotheses and the goal, to (in)equalities between natural numbers. -/
macro "cnorm" : tactic => `(tactic| (
  try simp only [decide_eq_true_eq, Bool.not_eq_true', decide_eq_false_iff_not, Bool.not_eq_true, bne_iff_ne, beq_iff_eq, ne_eq,
    ge_iff_le, gt_iff_lt, Bool.or_eq_true, Bool.and_eq_true, Bool.not_eq_eq_eq_not, Bool.not_true, Bool.not_false,
    Bool.or_eq_false_iff, Bool.and_eq_false_imp, beq_eq_false_iff_ne, bne_eq_false_iff_eq, not_or, not_and, Decidable.not_not,
    UInt64.le_iff_toNat_le, UInt64.lt_iff_toNat_lt, ← UInt64.toNat_inj,
    UInt32.le_iff_toNat_le, UInt32.lt_iff_toNat_lt, ← UInt32.toNat_inj,
    UInt16.le_iff_toNat_le, UInt16.lt_iff_toNat_lt, ← UInt16.toNat_inj,
    UInt8.le_iff_toNat_le, UInt8.lt_iff_toNat_lt, ← UInt8.toNat_inj,
    UInt64.toNat_ofNat, UInt64.reduceToNat, UInt32.toNat_ofNat, UInt32.reduceToNat,
    UInt16.toNat_ofNat, UInt16.reduceToNat, UInt8.toNat_ofNat, UInt8.reduceToNat,
    Nat.not_le, Nat.not_lt, Int.not_le, Int.not_lt, List.length_cons, List.length_nil,
    Nat.reducePow, Nat.reduceMod, Nat.reduceAdd] at *))

/-- Compare two results `(count, buffer after a chain of single-byte stores)` component by component,
leaving one goal per count / index / stored byte that is not syntactically equal. -/
macro "stores_eq" : tactic => `(tactic| (
  repeat' (first | (with_reducible rfl) | (with_reducible apply pair_eq) | (with_reducible apply set_eq))))

theorem or_eq_add (k : Nat) (A B : Nat) (hA : 2 ^ k ∣ A) (hB : B < 2 ^ k) : A ||| B = A + B := by
  obtain ⟨a, rfl⟩ := hA
  rw [Nat.mul_comm, ← Nat.shiftLeft_eq, Nat.shiftLeft_add_eq_or_of_lt hB]
theorem or_eq_add' (k : Nat) (A B : Nat) (hA : 2 ^ k ∣ A) (hB : B < 2 ^ k) : B ||| A = A + B := by
  rw [Nat.or_comm]; exact or_eq_add k A B hA hB
theorem or_add8' (A B : Nat) (hA : 256 ∣ A) (hB : B < 256) : B ||| A = A + B := or_eq_add' 8 A B hA hB
theorem or_add16' (A B : Nat) (hA : 65536 ∣ A) (hB : B < 65536) : B ||| A = A + B := or_eq_add' 16 A B hA hB
theorem or_add24' (A B : Nat) (hA : 16777216 ∣ A) (hB : B < 16777216) : B ||| A = A + B := or_eq_add' 24 A B hA hB
theorem or_add32' (A B : Nat) (hA : 4294967296 ∣ A) (hB : B < 4294967296) : B ||| A = A + B := or_eq_add' 32 A B hA hB
theorem or_add40' (A B : Nat) (hA : 1099511627776 ∣ A) (hB : B < 1099511627776) : B ||| A = A + B := or_eq_add' 40 A B hA hB
theorem or_add48' (A B : Nat) (hA : 281474976710656 ∣ A) (hB : B < 281474976710656) : B ||| A = A + B := or_eq_add' 48 A B hA hB
theorem or_add56' (A B : Nat) (hA : 72057594037927936 ∣ A) (hB : B < 72057594037927936) : B ||| A = A + B := or_eq_add' 56 A B hA hB

/-- for the masks that occur in byte / bit-field code, in both operand orders -/
theorem and_mask (k x : Nat) : x &&& (2 ^ k - 1) = x % 2 ^ k := Nat.and_two_pow_sub_one_eq_mod x k
theorem mask_and (k x : Nat) : (2 ^ k - 1) &&& x = x % 2 ^ k := by rw [Nat.and_comm]; exact and_mask k x
theorem and_1 (x : Nat) : x &&& 1 = x % 2 := and_mask 1 x
theorem and_3 (x : Nat) : x &&& 3 = x % 4 := and_mask 2 x
theorem and_7 (x : Nat) : x &&& 7 = x % 8 := and_mask 3 x
theorem and_15 (x : Nat) : x &&& 15 = x % 16 := and_mask 4 x
theorem and_31 (x : Nat) : x &&& 31 = x % 32 := and_mask 5 x
theorem and_63 (x : Nat) : x &&& 63 = x % 64 := and_mask 6 x
theorem and_127 (x : Nat) : x &&& 127 = x % 128 := and_mask 7 x
theorem and_255 (x : Nat) : x &&& 255 = x % 256 := and_mask 8 x
theorem and_65535 (x : Nat) : x &&& 65535 = x % 65536 := and_mask 16 x
theorem and_4294967295 (x : Nat) : x &&& 4294967295 = x % 4294967296 := and_mask 32 x
theorem and_1' (x : Nat) : 1 &&& x = x % 2 := mask_and 1 x
theorem and_3' (x : Nat) : 3 &&& x = x % 4 := mask_and 2 x
theorem and_7' (x : Nat) : 7 &&& x = x % 8 := mask_and 3 x
theorem and_15' (x : Nat) : 15 &&& x = x % 16 := mask_and 4 x
theorem and_31' (x : Nat) : 31 &&& x = x % 32 := mask_and 5 x
theorem and_63' (x : Nat) : 63 &&& x = x % 64 := mask_and 6 x
theorem and_127' (x : Nat) : 127 &&& x = x % 128 := mask_and 7 x
theorem and_255' (x : Nat) : 255 &&& x = x % 256 := mask_and 8 x
theorem and_65535' (x : Nat) : 65535 &&& x = x % 65536 := mask_and 16 x
theorem and_4294967295' (x : Nat) : 4294967295 &&& x = x % 4294967296 := mask_and 32 x

/-- After pushing a fixed-width expression to `Nat`: drop every `% m` that `omega` can show to be vacuous and turn
every `A ||| B` with provably disjoint bits (byte-aligned) into `A + B`, so that `omega` can finish.  Handles
`(b0 << 8) | b1`, `(b0 << 8) + b1`, and mixtures alike. -/
macro "bits_to_arith" : tactic => `(tactic| (
  try simp (disch := omega) only [Nat.mod_eq_of_lt, Nat.shiftLeft_eq, Nat.shiftRight_eq_div_pow,
    or_eq_add 8, or_eq_add 16, or_eq_add 24, or_eq_add 32, or_eq_add 40, or_eq_add 48, or_eq_add 56,
    or_add8', or_add16', or_add24', or_add32', or_add40', or_add48', or_add56',
    and_1, and_3, and_7, and_15, and_31, and_63, and_127, and_255, and_65535, and_4294967295,
    and_1', and_3', and_7', and_15', and_31', and_63', and_127', and_255', and_65535', and_4294967295'] at *))

end Lemmas
