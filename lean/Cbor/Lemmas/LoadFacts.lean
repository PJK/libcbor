import Cbor.Lemmas.Refine
/-! `load_eq` as equivalences: the model succeeds iff the reference decoder accepts, iff the stack machine completes a
run (used by C02, C05, C14); and `getOf` on the first part of an appended buffer. -/
namespace Lemmas.LoadFacts
open Model Abs Spec Lemmas.Refine Lemmas.Fund

theorem load_ok_iff (src : Array UInt8) (hsz : src.size < 2 ^ 56) (L : Nat) (r0 : LoadResult) (t : Item) (n : Nat) :
    ((Model.load ωT L r0 src).item = some t ∧ (Model.load ωT L r0 src).result.read = n) ↔
    Spec.decode true L okGuard (getOf src) src.size = .ok t n := by
  have h := load_eq src hsz L r0
  simp only at h
  cases hd : Spec.decode true L okGuard (getOf src) src.size with
  | ok x m =>
    rw [hd] at h
    obtain ⟨h1, h2, _⟩ := h
    rw [h1, h2]
    constructor
    · rintro ⟨a, b⟩; cases a; simp only at b; subst b; rfl
    · intro e; cases e; exact ⟨rfl, rfl⟩
  | nodata =>
    rw [hd] at h
    obtain ⟨h1, _, _⟩ := h
    rw [h1]; constructor
    · rintro ⟨a, _⟩; cases a
    · intro e; cases e
  | fail e p =>
    rw [hd] at h
    obtain ⟨h1, _, _⟩ := h
    rw [h1]; constructor
    · rintro ⟨a, _⟩; cases a
    · intro e; cases e

theorem decode_ok_iff_run (L : Nat) (get : Nat → UInt8) (len : Nat) (t : Item) (n : Nat) :
    Spec.decode true L okGuard get len = .ok t n ↔ (len ≠ 0 ∧ run L okGuard get len (len + 1) [] 0 = .ok t n) := by
  rw [← abs_decode_eq (L := L) (okA := okGuard) (get := get) (len := len) rfl]
  unfold Abs.decode
  by_cases h0 : len = 0
  · simp [h0]
  · simp only [h0, if_false, ne_eq, not_false_eq_true, true_and]
    cases hr : run L okGuard get len (len + 1) [] 0 with
    | ok x q => simp
    | err e p => simp

theorem load_ok_iff_run (src : Array UInt8) (hsz : src.size < 2 ^ 56) (L : Nat) (r0 : LoadResult) (t : Item) (n : Nat) :
    ((Model.load ωT L r0 src).item = some t ∧ (Model.load ωT L r0 src).result.read = n) ↔
    (src.size ≠ 0 ∧ run L okGuard (getOf src) src.size (src.size + 1) [] 0 = .ok t n) :=
  (load_ok_iff src hsz L r0 t n).trans (decode_ok_iff_run L (getOf src) src.size t n)

theorem getOf_append_left (x y : Array UInt8) (i : Nat) (h : i < x.size) : getOf (x ++ y) i = getOf x i := by
  simp [getOf, Array.getD_eq_getD_getElem?, Array.getElem?_append_left h]

end Lemmas.LoadFacts
