/-! `bitlen` (the number of binary digits of a natural number, for the overflow guard of C20) with its bounds, and small
facts that read `UInt64` / `UInt32` operations through `toNat`. -/

namespace Lemmas

theorem ofNat_toNat_small (n : Nat) (h : n < 2 ^ 64) : (UInt64.ofNat n).toNat = n :=
  UInt64.toNat_ofNat_of_lt' h

def bitlen : Nat → Nat
  | 0 => 0
  | n+1 => bitlen ((n+1) / 2) + 1
decreasing_by omega

@[simp] theorem bitlen_zero : bitlen 0 = 0 := by simp [bitlen]

theorem bitlen_pos (n : Nat) (h : n ≠ 0) : bitlen n = bitlen (n / 2) + 1 := by
  cases n with
  | zero => contradiction
  | succ k => rw [bitlen]

/-- `bitlen` and `Nat.log2` halve their argument in step; the bounds below are those of `Nat.log2` -/
theorem bitlen_eq_log2 (n : Nat) (h : n ≠ 0) : bitlen n = Nat.log2 n + 1 := by
  induction n using Nat.strongRecOn with
  | _ n ih =>
    rw [bitlen_pos n h, Nat.log2_def]
    by_cases h2 : 2 ≤ n
    · rw [if_pos h2, ih (n / 2) (by omega) (by omega)]
    · have : n / 2 = 0 := by omega
      rw [if_neg h2, this, bitlen_zero]

theorem lt_two_pow_bitlen (n : Nat) : n < 2 ^ bitlen n := by
  by_cases h : n = 0
  · subst h; simp
  · rw [bitlen_eq_log2 n h]; exact Nat.lt_log2_self

theorem two_pow_bitlen_le (n : Nat) (h : n ≠ 0) : 2 ^ (bitlen n - 1) ≤ n := by
  rw [bitlen_eq_log2 n h]; exact Nat.log2_self_le h

theorem bitlen_le_of_lt_two_pow (n k : Nat) (h : n < 2 ^ k) : bitlen n ≤ k := by
  by_cases h0 : n = 0
  · subst h0; simp
  · rw [bitlen_eq_log2 n h0]; exact (Nat.log2_lt h0).mpr h

theorem mul_lt_of_bitlen (a b : Nat) (h : bitlen a + bitlen b ≤ 64) : a * b < 2 ^ 64 := by
  have : a * b < 2 ^ bitlen a * 2 ^ bitlen b := Nat.mul_lt_mul'' (lt_two_pow_bitlen a) (lt_two_pow_bitlen b)
  rw [← Nat.pow_add] at this
  exact Nat.lt_of_lt_of_le this (Nat.pow_le_pow_right (by omega) h)

theorem bitlen_add_le_of_mul_lt (a b : Nat) (ha : 1 < a) (hb : 1 < b) (h : a * b < 2 ^ 63) : bitlen a + bitlen b ≤ 64 := by
  have hp : 2 ^ (bitlen a - 1) * 2 ^ (bitlen b - 1) ≤ a * b :=
    Nat.mul_le_mul (two_pow_bitlen_le a (by omega)) (two_pow_bitlen_le b (by omega))
  rw [← Nat.pow_add] at hp
  have := (Nat.pow_lt_pow_iff_right (by omega : 1 < 2)).mp (Nat.lt_of_le_of_lt hp h)
  rw [bitlen_pos a (by omega), bitlen_pos b (by omega)] at this ⊢
  omega

theorem u64_pred_toNat (s : UInt64) (h : 1 ≤ s.toNat) : (s - 1).toNat = s.toNat - 1 := by
  rw [UInt64.toNat_sub_of_le _ _ (UInt64.le_iff_toNat_le.mpr (by simpa using h))]; rfl

theorem u64_zero_iff (s : UInt64) : s = 0 ↔ s.toNat = 0 :=
  ⟨fun h => by subst h; rfl, fun h => UInt64.toNat_inj.mp (by simpa using h)⟩

theorem u64_odd_iff (s : UInt64) : s % 2 = 1 ↔ s.toNat % 2 = 1 := by
  constructor
  · intro h; have := congrArg UInt64.toNat h; simpa [UInt64.toNat_mod] using this
  · intro h; apply UInt64.toNat_inj.mp; simpa [UInt64.toNat_mod] using h

theorem u64_pos_iff (s : UInt64) : s > 0 ↔ s.toNat ≠ 0 := by
  constructor
  · intro h; have := UInt64.lt_iff_toNat_lt.mp h; simp at this; omega
  · intro h; apply UInt64.lt_iff_toNat_lt.mpr; simp; omega

theorem u32_beq (x y : UInt32) : (x == y) = decide (x.toNat = y.toNat) := by
  rw [Bool.eq_iff_iff]; simp [UInt32.toNat_inj]

theorem u64_beq (x y : UInt64) : (x == y) = decide (x.toNat = y.toNat) := by
  rw [Bool.eq_iff_iff]; simp [UInt64.toNat_inj]

end Lemmas
