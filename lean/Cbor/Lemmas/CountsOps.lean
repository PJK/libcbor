import Cbor.Lemmas.Counts
/-!
The reference-count invariant through the shapes of the primitives.  `Books h own` is the invariant as it is carried
through a computation: the counts are right unless the client has already broken a rule; so composite operations
(`cbor_copy`, a step of a history) are followed forwards, and the fault flag is looked at once, at the end.
-/
namespace Heap

/-- the books while some increfs are still to be performed: `xs` are references already stored in a
container but not yet counted -/
def Pending (h : H) (own : Ref → Nat) (xs : List Ref) : Prop := ∀ r, h.rc r + xs.count r = h.refs.count r + own r

theorem pending_nil {h : H} {own : Ref → Nat} (hp : Pending h own []) : Counts h own :=
  counts_iff.mpr fun r => by simpa using hp r

theorem pending_incref {h : H} {own : Ref → Nat} {x : Ref} {xs : List Ref} {cx : Cell}
    (hp : Pending h own (x :: xs)) (hg : h.get x = some cx) : Pending (h.incref x) own xs := by
  intro r
  have := hp r
  rw [rc_incref hg, refs_incref hg]
  simp only [List.count_cons, beq_iff_eq] at this
  by_cases e : r = x
  · simp only [e, if_true] at this ⊢; omega
  · simp only [e, Ne.symm e, if_false] at this ⊢; omega

/-- overwrite a cell with one whose children are `children - del + xs` (as multisets): the references removed
become owned by whoever removed them, the added ones are still to be counted -/
theorem pending_relinked {h : H} {own : Ref → Nat} {a : Ref} {c c' : Cell} (del xs : List Ref)
    (hc : Counts h own) (hg : h.get a = some c) (hrc : c'.rc = c.rc)
    (hch : ∀ r, c'.node.children.count r + del.count r = c.node.children.count r + xs.count r) :
    Pending (h.put a (some c')) (bumpL own del) xs := by
  intro r
  have hp := refs_put h a (some c') r (get_lt hg)
  have hr := counts_iff.mp hc r
  have := hch r
  rw [rc_put _ _ _ _ (get_lt hg)]
  simp only [hg, cellRefs, cellRc, bumpL] at hp ⊢
  split
  · rename_i e; subst e
    rw [rc_get hg] at hr; omega
  · omega

theorem sticky_increfs (xs : List Ref) (h : H) : Sticky h (xs.foldl H.incref h) :=
  foldl_inv (P := Sticky h) (G := fun _ => True) H.incref (fun _ x s _ => s.trans (sticky_incref _ x)) xs h (Sticky.refl h)
    (fun _ _ => trivial)

theorem pending_increfs : ∀ (xs : List Ref) {h : H} {own : Ref → Nat}, Pending h own xs → (xs.foldl H.incref h).fault = false →
    Counts (xs.foldl H.incref h) own
  | [], _, _, hp, _ => pending_nil hp
  | x :: xs, h, _, hp, hf => by
    obtain ⟨_, c, hg⟩ := incref_fault_false (sticky_false (sticky_increfs xs (h.incref x)) hf)
    exact pending_increfs xs (pending_incref hp hg) hf

def Books (h : H) (own : Ref → Nat) : Prop := h.fault = true ∨ Counts h own

theorem Books.counts {h : H} {own : Ref → Nat} (b : Books h own) (hf : h.fault = false) : Counts h own :=
  b.resolve_left (by rw [hf]; exact Bool.noConfusion)

theorem Books.step {h h' : H} {own own' : Ref → Nat} (s : Sticky h h') (k : Counts h own → h'.fault = false → Counts h' own')
    (b : Books h own) : Books h' own' := by
  cases hf : h'.fault with
  | true => exact Or.inl hf
  | false => exact Or.inr (k (b.counts (sticky_false s hf)) hf)

theorem Books.same {h h' : H} {own : Ref → Nat} (s : Same h h') (b : Books h own) : Books h' own :=
  b.step s.2 fun hc _ => counts_congr hc s.1

theorem Books.relink {h h' : H} {a : Ref} {del add : List Ref} {own : Ref → Nat} (l : Relink h a del add h') (b : Books h own) :
    Books h' (bumpL own del) := by
  obtain ⟨h1, c, c', e, ef, hg, hrc, hch, rfl⟩ := l
  refine b.step (fun hf => sticky_increfs add _ (ef.trans hf)) fun hc hf => ?_
  exact pending_increfs add (pending_relinked del add (counts_congr hc e) ((get_congr e a).trans hg) hrc hch) hf

theorem Books.incref {h : H} {own : Ref → Nat} (x : Ref) (b : Books h own) : Books (h.incref x) (bump own x 1) := by
  cases hg : h.get x with
  | none => exact Or.inl (by simp [H.incref, hg, H.bad])
  | some c => exact b.step (sticky_incref h x) fun hc _ => counts_incref hg hc

theorem Books.decref {h : H} {r : Ref} {own : Ref → Nat} (b : Books h (bump own r 1)) : Books (h.decref r) own :=
  b.step (sticky_decref h r) fun hc _ => (H.decref_counts h r own hc).1

theorem Books.decrefs : ∀ (xs : List Ref) {h : H} {own : Ref → Nat}, Books h (bumpL own xs) → Books (xs.foldl H.decref h) own
  | [], _, _, b => by rw [bumpL_nil] at b; exact b
  | x :: xs, _, _, b => by rw [bumpL_cons] at b; exact Books.decrefs xs b.decref

theorem Books.link {h : H} {a : Ref} {del xs : List Ref} {r : Bool × H} {own : Ref → Nat} (l : LinkPost h a del xs r)
    (b : Books h own) : Books r.2 own := by
  obtain ⟨ok, h'⟩ := r
  cases ok with
  | false => exact b.same l
  | true => obtain ⟨h1, l, rfl⟩ := l; exact Books.decrefs del (b.relink l)

/-- the books after an operation that may hand out a reference, which the client then owns -/
def BooksOut (own : Ref → Nat) (out : Option Ref × H) : Prop :=
  match out.1 with
  | some r => Books out.2 (bump own r 1)
  | none => Books out.2 own

theorem BooksOut.counts {own : Ref → Nat} {out : Option Ref × H} (b : BooksOut own out) (hf : out.2.fault = false) :
    match out.1 with
    | some r => Counts out.2 (bump own r 1)
    | none => Counts out.2 own := by
  unfold BooksOut at b
  split <;> rename_i e <;> simp only [e] at b <;> exact b.counts hf

theorem BooksOut.of_counts {own : Ref → Nat} {out : Option Ref × H}
    (hc : match out.1 with | some r => Counts out.2 (bump own r 1) | none => Counts out.2 own) : BooksOut own out := by
  unfold BooksOut
  split <;> rename_i e <;> simp only [e] at hc <;> exact Or.inr hc

theorem Books.newPost {n : Node} {h : H} {r : Option Ref × H} {own : Ref → Nat} (hp : NewPost n h r) (hn : n.children = [])
    (b : Books h own) : BooksOut own r := by
  obtain ⟨o, h'⟩ := r
  have s : Sticky h h' := fun hf => hp.1.trans hf
  cases o with
  | none => exact b.same ⟨hp.2, s⟩
  | some y =>
    obtain ⟨rfl, e, _⟩ := hp.granted
    exact b.step s fun hc _ => counts_snoc e [] (by simp [hn]) (by rw [bumpL_nil]; exact hc)

theorem Books.get {h : H} {r : Option Ref × H} {own : Ref → Nat} (g : GetPost h r) (b : Books h own) : BooksOut own r := by
  obtain ⟨o, h'⟩ := r
  cases o with
  | none => exact b.same g
  | some x => cases g; exact b.incref x

theorem Books.tagSet {h : H} {own : Ref → Nat} (t x : Ref) (b : Books h own) : BooksOut own (tagSet h t x) := by
  rcases tagSet_post h t x with ⟨old, h', e, l⟩ | e <;> rw [e]
  · have := b.relink l
    cases old with
    | none => rwa [Option.toList, bumpL_nil] at this
    | some old => rwa [Option.toList, bumpL_single] at this
  · exact Or.inl rfl

theorem Books.buildTag {ω : Oracle} {h : H} {own : Ref → Nat} (n : Nat) (x : Ref) (b : Books h own) :
    BooksOut own (buildTag ω h n x) := by
  rcases buildTag_post ω h n x with ⟨h', e, hc, hf⟩ | ⟨t, h1, h', e, hp, hl⟩ <;> rw [e]
  · exact b.same ⟨hc, fun k => hf.trans k⟩
  · have := Books.relink hl (b.newPost hp rfl)
    rwa [bumpL_nil] at this

theorem mapAdd_counts {ω : Oracle} {h : H} {own : Ref → Nat} {m k v : Ref}
    (hc : Counts h own) (hf : (mapAdd ω h m k v).2.fault = false) : Counts (mapAdd ω h m k v).2 own :=
  (Books.link (mapAdd_post ω h m k v) (Or.inr hc)).counts hf

theorem arrReplace_counts {h : H} {own : Ref → Nat} {a x : Ref} {i : Nat}
    (hc : Counts h own) (hf : (arrReplace h a i x).2.fault = false) : Counts (arrReplace h a i x).2 own :=
  have ⟨_, l⟩ := arrReplace_post h a i x
  (Books.link l (Or.inr hc)).counts hf

theorem tagSet_counts {h : H} {own : Ref → Nat} {t x : Ref}
    (hc : Counts h own) (hf : (tagSet h t x).2.fault = false) :
    match (tagSet h t x).1 with
    | some old => Counts (tagSet h t x).2 (bump own old 1)
    | none => Counts (tagSet h t x).2 own :=
  (Books.tagSet t x (Or.inr hc)).counts hf

theorem bumpL_nil' (own : Ref → Nat) : bumpL own [] = own := bumpL_nil own

theorem children_append_count (xs : List Ref) (x r : Ref) : (xs ++ [x]).count r = xs.count r + [x].count r := by
  simp [List.count_append]

end Heap
