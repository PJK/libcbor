import Cbor.Model.Builder
import Cbor.Lemmas.UInt
/-!
# The shapes of the builder callbacks

Every callback of `Model/Builder.lean` is a ladder of allocator requests, each refusal ending in the same state but for
the request counter, with one of three things at the bottom: a frame is pushed, an item is delivered to `append`, or a chunk
joins the string on top of the stack.  Here each callback is rewritten once as nested `if`s over the oracle's answers, with
`Ctx.asked` / `Ctx.refused` for the states in between; callbacks that differ in constants only (`tagCb` / `indefContainer`,
`arrayStart` / `mapStart`, the byte and text halves of `stringCb`) become instances of one definition.  The proofs that walk
the callbacks (`Lemmas.Safe`, `Lemmas.Sticky`, `HB`) go through these equations; only `breakCb`, which asks the allocator for
nothing, is unfolded as it stands.

`append` is split in two: what the frame on top does with the item (`Frame.take`, which knows nothing of the context), and
what each answer does to the context (`append_cons`).  A proof about `append` (`Lemmas.Safe`, `Lemmas.Sticky`,
`Lemmas.Refine`) says once, frame kind by frame kind, what its invariant makes of `Frame.take`, and then walks the six answers.
-/
namespace Model

def Ctx.asked (c : Ctx) (k : Nat) : Ctx := { c with reqs := c.reqs + k }

/-- after `k` more allocator requests, the last of them refused (an overflow guard or the nesting limit count as refusals) -/
def Ctx.refused (c : Ctx) (k : Nat) : Ctx := { c with reqs := c.reqs + k, creationFailed := true }

theorem pushFrame_eq (ω : Oracle) (L : Nat) (c : Ctx) (it : PItem) (sub : UInt64) :
    pushFrame ω L c it sub =
      if c.stack.length = L then c.refused 0
      else if ω c.reqs szStackRec then { c.asked 1 with stack := ⟨it, sub⟩ :: c.stack } else c.refused 1 := by
  simp only [pushFrame, Ctx.alloc]
  rcases Bool.eq_false_or_eq_true (ω c.reqs szStackRec) with h | h <;> simp only [h] <;> rfl

theorem scalar_eq (ω : Oracle) (c : Ctx) (extra : Nat) (it : Spec.Item) :
    scalar ω c extra it = if ω c.reqs (szItem + extra) then append ω (fuelOf c) it (c.asked 1) else c.refused 1 := by
  simp only [scalar, Ctx.alloc]
  rcases Bool.eq_false_or_eq_true (ω c.reqs (szItem + extra)) with h | h <;> simp only [h] <;> rfl

/-- one request for the item, then push: `tagCb` and `indefContainer` -/
def startPush (ω : Oracle) (L : Nat) (c : Ctx) (it : PItem) (sub : UInt64) : Ctx :=
  let (ok, c) := c.alloc ω szItem
  if !ok then { c with creationFailed := true } else pushFrame ω L c it sub

theorem tagCb_eq (ω : Oracle) (L : Nat) (c : Ctx) (v : UInt64) : tagCb ω L c v = startPush ω L c (.tag v.toNat none) 1 := rfl
theorem indefContainer_eq (ω : Oracle) (L : Nat) (c : Ctx) (it : PItem) : indefContainer ω L c it = startPush ω L c it 0 := rfl

theorem startPush_eq (ω : Oracle) (L : Nat) (c : Ctx) (it : PItem) (sub : UInt64) :
    startPush ω L c it sub = if ω c.reqs szItem then pushFrame ω L (c.asked 1) it sub else c.refused 1 := by
  simp only [startPush, Ctx.alloc]
  rcases Bool.eq_false_or_eq_true (ω c.reqs szItem) with h | h <;> simp only [h] <;> rfl

/-- definite array / map start: the item, then `n` slots of `elt` bytes behind the overflow guard; an empty container is
complete at once (`e`), any other becomes the frame `⟨it, sub⟩` -/
def defStart (ω : Oracle) (L : Nat) (c : Ctx) (elt : Nat) (n : UInt64) (it : PItem) (sub : UInt64) (e : Spec.Item) : Ctx :=
  let (ok1, c) := c.alloc ω szItem
  if !ok1 then { c with creationFailed := true } else
  let (ok2, c) := c.allocMultiple ω elt n.toNat
  if !ok2 then { c with creationFailed := true } else
  if n > 0 then pushFrame ω L c it sub
  else append ω (fuelOf c) e c

theorem arrayStart_eq (ω : Oracle) (L : Nat) (c : Ctx) (n : UInt64) :
    arrayStart ω L c n = defStart ω L c szPtr n (.arrD n.toNat []) n (.array []) := rfl
theorem mapStart_eq (ω : Oracle) (L : Nat) (c : Ctx) (n : UInt64) :
    mapStart ω L c n = defStart ω L c szPair n (.mapD n.toNat [] none) (n * 2) (.map []) := rfl

theorem defStart_eq (ω : Oracle) (L : Nat) (c : Ctx) (elt : Nat) (n : UInt64) (it : PItem) (sub : UInt64) (e : Spec.Item) :
    defStart ω L c elt n it sub e =
      if ω c.reqs szItem then
        if Gen._cbor_safe_to_multiply (UInt64.ofNat elt) (UInt64.ofNat n.toNat) then
          if ω (c.reqs + 1) (elt * n.toNat) then
            if n > 0 then pushFrame ω L (c.asked 2) it sub else append ω (fuelOf c) e (c.asked 2)
          else c.refused 2
        else c.refused 1
      else c.refused 1 := by
  simp only [defStart, Ctx.allocMultiple, Ctx.alloc]
  rcases Bool.eq_false_or_eq_true (ω c.reqs szItem) with h1 | h1 <;>
    rcases Bool.eq_false_or_eq_true (Gen._cbor_safe_to_multiply (UInt64.ofNat elt) (UInt64.ofNat n.toNat)) with h2 | h2 <;>
    rcases Bool.eq_false_or_eq_true (ω (c.reqs + 1) (elt * n.toNat)) with h3 | h3 <;> simp only [h1, h2, h3] <;> rfl

def strPI (t : Bool) (cap : Nat) (cs : List (List UInt8)) : PItem := if t then .tstrI cap cs else .bstrI cap cs

theorem strPI_kind {t t' : Bool} {cap cap' : Nat} {cs cs' : List (List UInt8)} (e : strPI t cap cs = strPI t' cap' cs') : t = t' := by
  cases t <;> cases t' <;> first | rfl | cases e

theorem indefString_eq (ω : Oracle) (L : Nat) (c : Ctx) (t : Bool) :
    indefString ω L c t =
      if ω c.reqs szItem then
        if ω (c.reqs + 1) szIndefStr then pushFrame ω L (c.asked 2) (strPI t 0 []) 0 else c.refused 2
      else c.refused 1 := by
  simp only [indefString, Ctx.alloc]
  rcases Bool.eq_false_or_eq_true (ω c.reqs szItem) with h1 | h1 <;>
    rcases Bool.eq_false_or_eq_true (ω (c.reqs + 1) szIndefStr) with h2 | h2 <;> simp only [h1, h2] <;> rfl

/-- growth of the container on top of the stack; on success `f` replaces the top frame.  The indefinite arms of `append`
and the chunk arm of `stringCb` are instances (by unfolding). -/
def Ctx.grown (c : Ctx) (ω : Oracle) (elt al : Nat) (f : Frame) (rest : List Frame) : Ctx :=
  let (ok, c) := c.growAlloc ω elt al
  if ok then { c with stack := f :: rest } else { c with creationFailed := true }

theorem Ctx.grown_cases (c : Ctx) (ω : Oracle) (elt al : Nat) (f : Frame) (rest : List Frame) :
    ∃ k, c.grown ω elt al f rest = { c.asked k with stack := f :: rest } ∨ c.grown ω elt al f rest = c.refused k := by
  simp only [Ctx.grown, Ctx.growAlloc, Ctx.allocMultiple, Ctx.alloc]
  split
  · split
    · rcases Bool.eq_false_or_eq_true (ω c.reqs (elt * grow al)) with h | h <;> simp only [h]
      · exact ⟨1, Or.inl rfl⟩
      · exact ⟨1, Or.inr rfl⟩
    · exact ⟨0, Or.inr rfl⟩
  · exact ⟨0, Or.inr rfl⟩

/-- `stringCb` after its two requests -/
def stringTail (ω : Oracle) (c : Ctx) (isText : Bool) (data : List UInt8) : Ctx :=
  match c.stack with
  | top :: rest =>
    match top.item, isText with
    | .bstrI cap cs, false =>
      if cs.length = cap then
        let (ok, c) := c.growAlloc ω szPtr cap
        if ok then { c with stack := { top with item := .bstrI (grow cap) (cs ++ [data]) } :: rest }
        else { c with creationFailed := true }
      else { c with stack := { top with item := .bstrI cap (cs ++ [data]) } :: rest }
    | .tstrI cap cs, true =>
      if cs.length = cap then
        let (ok, c) := c.growAlloc ω szPtr cap
        if ok then { c with stack := { top with item := .tstrI (grow cap) (cs ++ [data]) } :: rest }
        else { c with creationFailed := true }
      else { c with stack := { top with item := .tstrI cap (cs ++ [data]) } :: rest }
    | _, _ => append ω (fuelOf c) (if isText then .text data else .bytes data) c
  | [] => append ω (fuelOf c) (if isText then .text data else .bytes data) c

theorem stringCb_eq (ω : Oracle) (c : Ctx) (t : Bool) (d : List UInt8) :
    stringCb ω c t d =
      if ω c.reqs d.length then
        if ω (c.reqs + 1) szItem then stringTail ω (c.asked 2) t d else c.refused 2
      else c.refused 1 := by
  simp only [stringCb, Ctx.alloc]
  rcases Bool.eq_false_or_eq_true (ω c.reqs d.length) with h1 | h1 <;>
    rcases Bool.eq_false_or_eq_true (ω (c.reqs + 1) szItem) with h2 | h2 <;> simp only [h1, h2] <;> rfl

/-- a chunk for the indefinite string of the same kind on top of the stack -/
theorem stringTail_chunk (ω : Oracle) {c : Ctx} {t : Bool} {cap : Nat} {cs : List (List UInt8)} {sub : UInt64} {rest : List Frame}
    (hs : c.stack = ⟨strPI t cap cs, sub⟩ :: rest) (d : List UInt8) :
    stringTail ω c t d =
      if cs.length = cap then c.grown ω szPtr cap ⟨strPI t (grow cap) (cs ++ [d]), sub⟩ rest
      else { c with stack := ⟨strPI t cap (cs ++ [d]), sub⟩ :: rest } := by
  cases t <;> simp only [stringTail, hs, strPI] <;> rfl

/-- anything else on top, or nothing: the string is an item like any other -/
theorem stringTail_other (ω : Oracle) {c : Ctx} {t : Bool} (hs : ∀ cap cs sub rest, c.stack ≠ ⟨strPI t cap cs, sub⟩ :: rest)
    (d : List UInt8) : stringTail ω c t d = append ω (fuelOf c) (if t then .text d else .bytes d) c := by
  unfold stringTail
  split
  · rename_i top rest hst
    obtain ⟨it, sub⟩ := top
    split
    · rename_i heq; cases heq; exact absurd hst (hs _ _ _ _)
    · rename_i heq; cases heq; exact absurd hst (hs _ _ _ _)
    · rfl
  · rfl

theorem stringTail_cases (ω : Oracle) (c : Ctx) (t : Bool) (d : List UInt8) :
    (∃ cap cs sub rest, c.stack = ⟨strPI t cap cs, sub⟩ :: rest ∧
      stringTail ω c t d =
        if cs.length = cap then c.grown ω szPtr cap ⟨strPI t (grow cap) (cs ++ [d]), sub⟩ rest
        else { c with stack := ⟨strPI t cap (cs ++ [d]), sub⟩ :: rest }) ∨
    stringTail ω c t d = append ω (fuelOf c) (if t then .text d else .bytes d) c := by
  by_cases h : ∃ cap cs sub rest, c.stack = ⟨strPI t cap cs, sub⟩ :: rest
  · obtain ⟨cap, cs, sub, rest, hs⟩ := h
    exact Or.inl ⟨cap, cs, sub, rest, hs, stringTail_chunk ω hs d⟩
  · exact Or.inr (stringTail_other ω (fun cap cs sub rest e => h ⟨cap, cs, sub, rest, e⟩) d)

/-- what the frame on top of the stack does with an item delivered to it; the allocator and the rest of the stack come in
only afterwards (`append_cons`) -/
inductive Taken
  | bad                               -- an assertion of the C code fails
  | syn                               -- a chunked string is given something that is not a chunk
  | full                              -- a definite container without a free slot
  | put (f : Frame)                   -- the item is in: `f` is the frame now
  | grow (elt al : Nat) (f : Frame)   -- the same, once `al` slots of `elt` bytes have been allowed to grow
  | done (it : PItem)                 -- the item was the last one: `it` is complete and is delivered in its turn

/-- The countdowns are read as numbers.  Two assertions of the C code cannot fail where they stand and are left out: an odd
countdown is not zero, and an even one that is not zero does not reach zero by one step. -/
def Frame.take (x : Spec.Item) : Frame → Taken
  | ⟨.arrD al xs, sub⟩ =>
    if sub.toNat = 0 then .bad else if al ≤ xs.length then .full
    else if sub.toNat = 1 then .done (.arrD al (xs ++ [x])) else .put ⟨.arrD al (xs ++ [x]), sub - 1⟩
  | ⟨.arrI al xs, sub⟩ =>
    if al ≤ xs.length then .grow szPtr al ⟨.arrI (grow al) (xs ++ [x]), sub⟩ else .put ⟨.arrI al (xs ++ [x]), sub⟩
  | ⟨.mapD al kvs key, sub⟩ =>
    if sub.toNat % 2 = 1 then
      match key with
      | none => .bad
      | some k => if sub.toNat = 1 then .done (.mapD al (kvs ++ [(k, x)]) none) else .put ⟨.mapD al (kvs ++ [(k, x)]) none, sub - 1⟩
    else if al ≤ kvs.length then .full
    else if sub.toNat = 0 then .bad else .put ⟨.mapD al kvs (some x), sub - 1⟩
  | ⟨.mapI al kvs key, sub⟩ =>
    if sub.toNat % 2 = 1 then
      match key with
      | none => .bad
      | some k => .put ⟨.mapI al (kvs ++ [(k, x)]) none, sub ^^^ 1⟩
    else if al ≤ kvs.length then .grow szPair al ⟨.mapI (grow al) kvs (some x), sub ^^^ 1⟩
    else .put ⟨.mapI al kvs (some x), sub ^^^ 1⟩
  | ⟨.tag n _, sub⟩ => if sub = 1 then .done (.tag n (some x)) else .bad
  | ⟨.bstrI _ _, _⟩ | ⟨.tstrI _ _, _⟩ => .syn

theorem append_nil (ω : Oracle) (fuel : Nat) (x : Spec.Item) {c : Ctx} (hs : c.stack = []) :
    append ω (fuel + 1) x c = { c with root := some x } := by
  simp only [append, hs]

theorem append_cons (ω : Oracle) (fuel : Nat) (x : Spec.Item) {c : Ctx} {top : Frame} {rest : List Frame} (hs : c.stack = top :: rest) :
    append ω (fuel + 1) x c =
      match top.take x with
      | .bad => { c with fault := true }
      | .syn => { c with syntaxError := true }
      | .full => c.refused 0
      | .put f => { c with stack := f :: rest }
      | .grow elt al f => c.grown ω elt al f rest
      | .done it => append ω fuel it.finish { c with stack := rest } := by
  obtain ⟨it, sub⟩ := top
  obtain ⟨stack, root, cf, se, reqs, fault⟩ := c
  subst hs
  have h0 := Lemmas.u64_zero_iff sub
  have hodd := Lemmas.u64_odd_iff sub
  have h1 : sub ≠ 0 → (sub - 1 = 0 ↔ sub.toNat = 1) := fun hne => by
    have hpos := mt h0.mpr hne
    rw [Lemmas.u64_zero_iff, Lemmas.u64_pred_toNat sub (by omega)]; omega
  cases it <;> simp only [append, Frame.take, ge_iff_le]
  case arrD al xs =>
    by_cases hz : sub = 0
    · rw [if_pos hz, if_pos (h0.mp hz)]
    · rw [if_neg hz, if_neg (mt h0.mpr hz)]
      by_cases hfull : al ≤ xs.length
      · rw [if_pos hfull, if_pos hfull]; rfl
      · rw [if_neg hfull, if_neg hfull]
        by_cases hl : sub - 1 = 0
        · rw [if_pos hl, if_pos ((h1 hz).mp hl)]
        · rw [if_neg hl, if_neg (mt (h1 hz).mpr hl)]
  case arrI al xs => split <;> rfl
  case mapD al kvs key =>
    by_cases ho : sub % 2 = 1
    · have hz : sub ≠ 0 := fun e => by rw [e] at ho; exact absurd ho (by decide)
      rw [if_pos ho, if_pos (hodd.mp ho)]
      cases key with
      | none => rfl
      | some k =>
        simp only [if_neg hz]
        by_cases hl : sub - 1 = 0
        · rw [if_pos hl, if_pos ((h1 hz).mp hl)]
        · rw [if_neg hl, if_neg (mt (h1 hz).mpr hl)]
    · rw [if_neg ho, if_neg (mt hodd.mpr ho)]
      by_cases hfull : al ≤ kvs.length
      · rw [if_pos hfull, if_pos hfull]; rfl
      · rw [if_neg hfull, if_neg hfull]
        by_cases hz : sub = 0
        · rw [if_pos hz, if_pos (h0.mp hz)]
        · have hl : ¬ sub - 1 = 0 := fun e => by
            have := (h1 hz).mp e; have := mt hodd.mpr ho; omega
          rw [if_neg hz, if_neg (mt h0.mpr hz), if_neg hl]
  case mapI al kvs key =>
    by_cases ho : sub % 2 = 1
    · rw [if_pos ho, if_pos (hodd.mp ho)]
      cases key <;> rfl
    · rw [if_neg ho, if_neg (mt hodd.mpr ho)]
      split <;> rfl
  case tag n xo =>
    by_cases hs1 : sub = 1
    · rw [if_neg (not_not_intro hs1), if_pos hs1]; rfl
    · rw [if_pos hs1, if_neg hs1]

end Model
