import Cbor.Gen.Encoding
import Cbor.Spec.EncodeLemmas
import Cbor.Lemmas.Tactics
/-!
The generated low-level encoders, characterised once: each writes exactly the bytes of one RFC 8949 head
at `off` when they fit in the `n` bytes it was given, and otherwise returns 0 leaving the buffer untouched.

The proofs are independent of the spelling of the generated functions (see `Cbor.Lemmas.Tactics`): every `if`
is split, every guard becomes a `Nat` fact, the stores are compared one by one and each stored byte is compared
through `toNat` (so `v >> 8`, `v / 256`, `(uint8_t)(v >> 8)` … all go through).
-/
set_option linter.unusedSimpArgs false
namespace Lemmas
open Gen

/-- successive single-byte stores, as the C code performs them -/
def writeList (buf : Array UInt8) (off : Nat) : List UInt8 → Array UInt8
  | [] => buf
  | b :: bs => writeList (buf.setIfInBounds off b) (off + 1) bs

/-- what every low-level encoder does, given the bytes `bs` it is meant to emit -/
def encRes (buf : Array UInt8) (off : Nat) (n : UInt64) (bs : List UInt8) : UInt64 × Array UInt8 :=
  if bs.length ≤ n.toNat then (UInt64.ofNat bs.length, writeList buf off bs) else (0, buf)

theorem writeList_size (buf : Array UInt8) (off : Nat) (bs : List UInt8) : (writeList buf off bs).size = buf.size := by
  induction bs generalizing buf off with
  | nil => rfl
  | cons b bs ih => simp [writeList, ih]

theorem encRes_of_le {n : UInt64} {bs : List UInt8} (h : bs.length ≤ n.toNat) (buf : Array UInt8) (off : Nat) :
    encRes buf off n bs = (UInt64.ofNat bs.length, writeList buf off bs) := if_pos h

theorem encRes_of_lt {n : UInt64} {bs : List UInt8} (h : n.toNat < bs.length) (buf : Array UInt8) (off : Nat) :
    encRes buf off n bs = (0, buf) := if_neg (Nat.not_le.mpr h)

theorem encRes_size (buf : Array UInt8) (off : Nat) (n : UInt64) (bs : List UInt8) : (encRes buf off n bs).2.size = buf.size := by
  by_cases h : bs.length ≤ n.toNat
  · rw [encRes_of_le h]; exact writeList_size buf off bs
  · rw [encRes_of_lt (Nat.lt_of_not_le h)]

theorem hb_small (mt ai v : Nat) (h : ai < 24) : Spec.headBytes mt ai v = [UInt8.ofNat (mt * 32 + ai)] := by
  simp [Spec.headBytes, h]
theorem hb_24 (mt v : Nat) : Spec.headBytes mt 24 v = [UInt8.ofNat (mt * 32 + 24), UInt8.ofNat (v % 256)] := by
  simp [Spec.headBytes, Spec.beBytes, Spec.argBytes]
theorem hb_25 (mt v : Nat) : Spec.headBytes mt 25 v =
    [UInt8.ofNat (mt * 32 + 25), UInt8.ofNat (v / 256 % 256), UInt8.ofNat (v % 256)] := by
  simp [Spec.headBytes, Spec.beBytes, Spec.argBytes]
theorem hb_26 (mt v : Nat) : Spec.headBytes mt 26 v =
    [UInt8.ofNat (mt * 32 + 26), UInt8.ofNat (v / 256 ^ 3 % 256), UInt8.ofNat (v / 256 ^ 2 % 256),
     UInt8.ofNat (v / 256 % 256), UInt8.ofNat (v % 256)] := by
  simp [Spec.headBytes, Spec.beBytes, Spec.argBytes]
theorem hb_27 (mt v : Nat) : Spec.headBytes mt 27 v =
    [UInt8.ofNat (mt * 32 + 27), UInt8.ofNat (v / 256 ^ 7 % 256), UInt8.ofNat (v / 256 ^ 6 % 256),
     UInt8.ofNat (v / 256 ^ 5 % 256), UInt8.ofNat (v / 256 ^ 4 % 256), UInt8.ofNat (v / 256 ^ 3 % 256),
     UInt8.ofNat (v / 256 ^ 2 % 256), UInt8.ofNat (v / 256 % 256), UInt8.ofNat (v % 256)] := by
  simp [Spec.headBytes, Spec.beBytes, Spec.argBytes]

local macro "u8eq" : tactic => `(tactic| (apply UInt8.toNat_inj.mp; (simp [C.toU8, UInt8.toNat_add, UInt8.toNat_mul,
  Nat.shiftRight_eq_div_pow, Nat.shiftLeft_eq, UInt16.toNat_div, UInt32.toNat_div, UInt64.toNat_div,
  UInt16.toNat_and, UInt32.toNat_and, UInt64.toNat_and] <;> bits_to_arith <;> omega)))

local macro "enc_fin" : tactic => `(tactic| (
  simp only [writeList, List.length_cons, List.length_nil]
  repeat' split
  all_goals cnorm
  all_goals (try omega)
  all_goals stores_eq
  all_goals (first | omega | (apply UInt64.toNat_inj.mp; simp; done) | u8eq)))

theorem enc8 (v : UInt8) (buf : Array UInt8) (off : Nat) (n : UInt64) (mt : Nat) (hmt : mt < 8) :
    _cbor_encode_uint8 v buf off n (UInt8.ofNat (mt * 32)) =
      encRes buf off n (Spec.headBytes mt (if v.toNat < 24 then v.toNat else 24) v.toNat) := by
  have hv := v.toNat_lt
  by_cases hs : v.toNat < 24
  · rw [if_pos hs, hb_small _ _ _ hs]
    unfold _cbor_encode_uint8 encRes
    enc_fin
  · rw [if_neg hs, hb_24]
    unfold _cbor_encode_uint8 encRes
    enc_fin

theorem enc16 (v : UInt16) (buf : Array UInt8) (off : Nat) (n : UInt64) (mt : Nat) (hmt : mt < 8) :
    _cbor_encode_uint16 v buf off n (UInt8.ofNat (mt * 32)) = encRes buf off n (Spec.headBytes mt 25 v.toNat) := by
  have hv := v.toNat_lt
  rw [hb_25]
  unfold _cbor_encode_uint16 encRes
  enc_fin

theorem enc32 (v : UInt32) (buf : Array UInt8) (off : Nat) (n : UInt64) (mt : Nat) (hmt : mt < 8) :
    _cbor_encode_uint32 v buf off n (UInt8.ofNat (mt * 32)) = encRes buf off n (Spec.headBytes mt 26 v.toNat) := by
  have hv := v.toNat_lt
  rw [hb_26]
  unfold _cbor_encode_uint32 encRes
  enc_fin

theorem enc64 (v : UInt64) (buf : Array UInt8) (off : Nat) (n : UInt64) (mt : Nat) (hmt : mt < 8) :
    _cbor_encode_uint64 v buf off n (UInt8.ofNat (mt * 32)) = encRes buf off n (Spec.headBytes mt 27 v.toNat) := by
  have hv := v.toNat_lt
  rw [hb_27]
  unfold _cbor_encode_uint64 encRes
  enc_fin

theorem head_le_255 (mt v : Nat) (h : v ≤ 255) : Spec.head mt v = Spec.headBytes mt (if v < 24 then v else 24) v := by
  unfold Spec.head Spec.shortestAi
  by_cases h24 : v < 24
  · rw [if_pos h24, if_pos h24]
  · rw [if_neg h24, if_neg h24, if_pos (by omega)]
theorem head_le_65535 (mt v : Nat) (h1 : 255 < v) (h2 : v ≤ 65535) : Spec.head mt v = Spec.headBytes mt 25 v := by
  unfold Spec.head Spec.shortestAi
  rw [if_neg (by omega), if_neg (by omega), if_pos (by omega)]
theorem head_le_4294967295 (mt v : Nat) (h1 : 65535 < v) (h2 : v ≤ 4294967295) : Spec.head mt v = Spec.headBytes mt 26 v := by
  unfold Spec.head Spec.shortestAi
  rw [if_neg (by omega), if_neg (by omega), if_neg (by omega), if_pos (by omega)]
theorem head_gt_4294967295 (mt v : Nat) (h1 : 4294967295 < v) : Spec.head mt v = Spec.headBytes mt 27 v := by
  unfold Spec.head Spec.shortestAi
  rw [if_neg (by omega), if_neg (by omega), if_neg (by omega), if_neg (by omega)]

/-- the number of bytes of the shortest head, by the range of its argument -/
theorem head_length (mt v : Nat) : (Spec.head mt v).length =
    if v < 24 then 1 else if v < 256 then 2 else if v < 65536 then 3 else if v < 4294967296 then 5 else 9 := by
  simp only [Spec.head, Spec.headBytes_length, Spec.shortestAi]
  repeat' split
  all_goals first | rfl | omega

theorem headBytes_len_le (mt ai v : Nat) : (Spec.headBytes mt ai v).length ≤ 9 := by
  have : Spec.argBytes ai ≤ 8 := by unfold Spec.argBytes; repeat' split
                                    all_goals omega
  rw [Spec.headBytes_length]; split <;> omega

theorem head_len_le (mt v : Nat) : (Spec.head mt v).length ≤ 9 := headBytes_len_le mt _ v

theorem headBytes_pos (mt ai v : Nat) : 0 < (Spec.headBytes mt ai v).length := by
  rw [Spec.headBytes_length]; split <;> omega

theorem head_pos (mt v : Nat) : 0 < (Spec.head mt v).length := headBytes_pos mt _ v

theorem headBytes_ne_nil (mt ai v : Nat) : Spec.headBytes mt ai v ≠ [] := List.ne_nil_of_length_pos (headBytes_pos mt ai v)

theorem head_ne_nil (mt v : Nat) : Spec.head mt v ≠ [] := headBytes_ne_nil mt _ v

/-- the width-agnostic encoder emits the shortest head -/
theorem encUint (v : UInt64) (buf : Array UInt8) (off : Nat) (n : UInt64) (mt : Nat) (hmt : mt < 8) :
    _cbor_encode_uint v buf off n (UInt8.ofNat (mt * 32)) = encRes buf off n (Spec.head mt v.toNat) := by
  have hv := v.toNat_lt
  have c8 : v.toNat ≤ 255 → v.toUInt8.toNat = v.toNat := by intro h; simp; omega
  have c16 : v.toNat ≤ 65535 → v.toUInt16.toNat = v.toNat := by intro h; simp; omega
  have c32 : v.toNat ≤ 4294967295 → v.toUInt32.toNat = v.toNat := by intro h; simp; omega
  unfold _cbor_encode_uint
  simp only [Prod.eta]
  repeat' split
  all_goals cnorm
  all_goals (first
    | (rw [enc8 _ _ _ _ _ hmt, c8 (by omega), head_le_255 _ _ (by omega)]; done)
    | (rw [enc16 _ _ _ _ _ hmt, c16 (by omega), head_le_65535 _ _ (by omega) (by omega)]; done)
    | (rw [enc32 _ _ _ _ _ hmt, c32 (by omega), head_le_4294967295 _ _ (by omega) (by omega)]; done)
    | (rw [enc64 _ _ _ _ _ hmt, head_gt_4294967295 _ _ (by omega)]; done)
    | omega)

theorem encByte (v : UInt8) (buf : Array UInt8) (off : Nat) (n : UInt64) :
    _cbor_encode_byte v buf off n = encRes buf off n [v] := by
  unfold _cbor_encode_byte encRes
  enc_fin

/-! Side conditions (`.ok`): no store outside the buffer, no undefined arithmetic. -/

local macro "ok_fin" : tactic => `(tactic| (
  repeat' split
  all_goals cnorm
  all_goals (try omega)
  all_goals (simp [C.fitsS] <;> omega)))

theorem enc8_ok (v : UInt8) (buf : Array UInt8) (off : Nat) (n : UInt64) (o : UInt8) (h : off + n.toNat ≤ buf.size) :
    _cbor_encode_uint8.ok v buf off n o = true := by
  have hv := v.toNat_lt; have ho := o.toNat_lt
  unfold _cbor_encode_uint8.ok
  ok_fin

theorem enc16_ok (v : UInt16) (buf : Array UInt8) (off : Nat) (n : UInt64) (o : UInt8) (h : off + n.toNat ≤ buf.size) :
    _cbor_encode_uint16.ok v buf off n o = true := by
  have hv := v.toNat_lt; have ho := o.toNat_lt
  unfold _cbor_encode_uint16.ok
  ok_fin

theorem enc32_ok (v : UInt32) (buf : Array UInt8) (off : Nat) (n : UInt64) (o : UInt8) (h : off + n.toNat ≤ buf.size) :
    _cbor_encode_uint32.ok v buf off n o = true := by
  have hv := v.toNat_lt; have ho := o.toNat_lt
  unfold _cbor_encode_uint32.ok
  ok_fin

theorem enc64_ok (v : UInt64) (buf : Array UInt8) (off : Nat) (n : UInt64) (o : UInt8) (h : off + n.toNat ≤ buf.size) :
    _cbor_encode_uint64.ok v buf off n o = true := by
  have hv := v.toNat_lt; have ho := o.toNat_lt
  unfold _cbor_encode_uint64.ok
  ok_fin

theorem encUint_ok (v : UInt64) (buf : Array UInt8) (off : Nat) (n : UInt64) (o : UInt8) (h : off + n.toNat ≤ buf.size) :
    _cbor_encode_uint.ok v buf off n o = true := by
  unfold _cbor_encode_uint.ok
  repeat' split
  all_goals simp [enc8_ok, enc16_ok, enc32_ok, enc64_ok, h]

theorem encByte_ok (v : UInt8) (buf : Array UInt8) (off : Nat) (n : UInt64) (h : off + n.toNat ≤ buf.size) :
    _cbor_encode_byte.ok v buf off n = true := by
  unfold _cbor_encode_byte.ok
  ok_fin

theorem writeList_getElem?_out (buf : Array UInt8) (off : Nat) (bs : List UInt8) (i : Nat)
    (h : i < off ∨ off + bs.length ≤ i) : (writeList buf off bs)[i]? = buf[i]? := by
  induction bs generalizing buf off with
  | nil => rfl
  | cons b bs ih =>
    simp only [writeList, List.length_cons] at h ⊢
    rw [ih _ _ (by omega), Array.getElem?_setIfInBounds]
    have : off ≠ i := by omega
    simp [this]

theorem writeList_getElem? (buf : Array UInt8) (off : Nat) (bs : List UInt8) (i : Nat)
    (hi : i < bs.length) (hb : off + bs.length ≤ buf.size) :
    (writeList buf off bs)[off + i]? = bs[i]? := by
  induction bs generalizing buf off i with
  | nil => simp at hi
  | cons b bs ih =>
    simp only [writeList]
    simp only [List.length_cons] at hi hb
    cases i with
    | zero =>
      rw [Nat.add_zero, writeList_getElem?_out _ _ _ _ (by omega), Array.getElem?_setIfInBounds]
      simp; omega
    | succ j =>
      have := ih (buf.setIfInBounds off b) (off + 1) j (by omega) (by simp; omega)
      rw [show off + (j + 1) = off + 1 + j by omega, this]
      simp

end Lemmas
