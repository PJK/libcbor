import Cbor.Gen.Streaming
import Cbor.Lemmas.Loaders
import Cbor.Spec.HeadLemmas
import Cbor.Lemmas.Tactics
/-!
Bridge between the generated streaming decoder and the RFC head specification: how an outcome of the decoder is read
as a head (`toTok`, `tokMatch`, `SdRel`), `claim_bytes` as arithmetic, the specification at one initial byte, and what
each shape of `case` body in `cbor_stream_decode` establishes.  `SdSpec.lean` puts them together.
-/
-- `claim_bytes_eq` lists the simp lemmas for every shape the generated `claim_bytes` may take; some are unused on any one
set_option linter.unusedSimpArgs false
namespace Lemmas
open Gen

/-- events of the generated decoder read as specification tokens (payload offsets relative to `off`) -/
def toTok (off : Nat) : Event → Spec.Tok
  | .uint8 v => .uint .w8 v.toNat
  | .uint16 v => .uint .w16 v.toNat
  | .uint32 v => .uint .w32 v.toNat
  | .uint64 v => .uint .w64 v.toNat
  | .negint8 v => .negint .w8 v.toNat
  | .negint16 v => .negint .w16 v.toNat
  | .negint32 v => .negint .w32 v.toNat
  | .negint64 v => .negint .w64 v.toNat
  | .byte_string o l => .bytes (o - off) l.toNat
  | .byte_string_start => .bytesStart
  | .string o l => .text (o - off) l.toNat
  | .string_start => .textStart
  | .array_start n => .array n.toNat
  | .indef_array_start => .arrayStart
  | .map_start n => .map n.toNat
  | .indef_map_start => .mapStart
  | .tag n => .tag n.toNat
  | .float2 f => .half f.toNat      -- never compared: `tokMatch` treats `float2` (which carries the *decoded* binary32 bits) itself
  | .float4 f => .single f.toNat
  | .float8 f => .double f.toNat
  | .undefined => .undefined
  | .null => .null
  | .boolean b => .bool b
  | .indef_break => .brk

theorem claim_bytes_eq (req n rd : UInt64) {st : UInt32} {rq : UInt64} (h : rd.toNat ≤ n.toNat) :
    claim_bytes req n { read := rd, status := st, required := rq } =
      if rd.toNat + req.toNat ≤ n.toNat then
        (true, { read := rd + req, status := st, required := 0 })
      else
        (false, { read := 0, status := 1,
                  required := if req.toNat + rd.toNat < 2 ^ 64 then req + rd else 18446744073709551615 }) := by
  -- independent of the shape of the generated `claim_bytes` (guard polarity, hoisted locals, ternary vs if/else):
  -- split every `if` on both sides, compare the results field by field, push every guard to `Nat`
  have hrl := rd.toNat_lt
  have hql := req.toNat_lt
  have hnl := n.toNat_lt
  unfold claim_bytes
  simp only []
  repeat' split
  all_goals (simp only [Prod.mk.injEq, S_cbor_decoder_result.mk.injEq, true_and, and_true, and_self, Bool.false_eq_true,
    Bool.true_eq_false, reduceCtorEq, false_and, and_false])
  all_goals cnorm
  all_goals (try simp only [UInt64.toNat_sub, UInt64.toNat_add, UInt64.reduceToNat, Nat.reducePow] at *)
  all_goals omega

theorem claim_first {n : UInt64} (h : n.toNat ≠ 0) :
    claim_bytes 1 n { read := 0, status := 0, required := 0 } = (true, { read := 1, status := 0, required := 0 }) := by
  rw [claim_bytes_eq 1 n 0 (Nat.zero_le _), if_pos (by simp only [UInt64.reduceToNat]; omega)]
  rfl
theorem claim_first_empty {n : UInt64} (h : n.toNat = 0) :
    claim_bytes 1 n { read := 0, status := 0, required := 0 } = (false, { read := 0, status := 1, required := 1 }) := by
  rw [claim_bytes_eq 1 n 0 (Nat.zero_le _), if_neg (by simp only [UInt64.reduceToNat]; omega)]
  rfl

theorem claim_ok (a b : UInt64) (c : S_cbor_decoder_result) : claim_bytes.ok a b c = true := by
  unfold claim_bytes.ok
  simp only []
  repeat' split
  all_goals (first | rfl | (cnorm; simp; done))

/-- does event `e` (payload offsets absolute, buffer starting at `off`) denote token `t`? -/
def tokMatch (off : Nat) (e : Event) (t : Spec.Tok) : Bool :=
  match e, t with
  | .float2 f, .half h => f == Ext.decodeHalfBits h && h < 65536
  | .float2 _, _ => false
  | e, t => toTok off e == t

theorem tokMatch_float2 {off : Nat} {f : UInt32} {t : Spec.Tok} :
    tokMatch off (.float2 f) t = true ↔ ∃ h, t = .half h ∧ f = Ext.decodeHalfBits h ∧ h < 65536 := by
  cases t <;> simp [tokMatch]

theorem tokMatch_toTok {off : Nat} {e : Event} {t : Spec.Tok} (he : ∀ f, e ≠ .float2 f) :
    tokMatch off e t = true ↔ t = toTok off e := by
  cases e
  case float2 f => exact absurd rfl (he f)
  all_goals simp only [tokMatch, beq_iff_eq]; exact eq_comm

def evOf (off : Nat) : Spec.Tok → Event
  | .uint .w8 v => .uint8 (.ofNat v)
  | .uint .w16 v => .uint16 (.ofNat v)
  | .uint .w32 v => .uint32 (.ofNat v)
  | .uint .w64 v => .uint64 (.ofNat v)
  | .negint .w8 v => .negint8 (.ofNat v)
  | .negint .w16 v => .negint16 (.ofNat v)
  | .negint .w32 v => .negint32 (.ofNat v)
  | .negint .w64 v => .negint64 (.ofNat v)
  | .bytes o l => .byte_string (off + o) (.ofNat l)
  | .bytesStart => .byte_string_start
  | .text o l => .string (off + o) (.ofNat l)
  | .textStart => .string_start
  | .array n => .array_start (.ofNat n)
  | .arrayStart => .indef_array_start
  | .map n => .map_start (.ofNat n)
  | .mapStart => .indef_map_start
  | .tag n => .tag (.ofNat n)
  | .half h => .float2 (Ext.decodeHalfBits h)
  | .single b => .float4 (.ofNat b)
  | .double b => .float8 (.ofNat b)
  | .bool b => .boolean b
  | .null => .null
  | .undefined => .undefined
  | .brk => .indef_break

/-- the event is determined by the token it denotes (payload offset ≥ 1, as for every decoded head) -/
theorem tokMatch_evOf {off : Nat} {e : Event} {t : Spec.Tok} (h : tokMatch off e t = true)
    (hp : ∀ o pl, t.payload = some (o, pl) → 1 ≤ o) : e = evOf off t := by
  cases e
  case float2 f =>
    obtain ⟨h', rfl, rfl, _⟩ := tokMatch_float2.mp h
    rfl
  all_goals
    obtain rfl := (tokMatch_toTok (by simp)).mp h
    simp [evOf, toTok, Spec.Tok.payload] at hp ⊢
  all_goals omega

/-- exact relation between one call of the generated decoder and the RFC head reader -/
def SdRel (off : Nat) (r : S_cbor_decoder_result × List Event) (s : Spec.HeadRes) : Prop :=
  match s with
  | .ok t l => r.1.status = 0 ∧ r.1.read.toNat = l ∧ r.1.required = 0 ∧ ∃ e, r.2 = [e] ∧ tokMatch off e t = true
  | .nedata need => r.1.status = 1 ∧ r.1.read = 0 ∧ r.2 = [] ∧ r.1.required.toNat = min need (2 ^ 64 - 1)
  | .error => r.1.status = 2 ∧ r.1.read = 0 ∧ r.1.required = 0 ∧ r.2 = []

section
variable {off : Nat} {r : S_cbor_decoder_result × List Event} {s : Spec.HeadRes}

/-- what `SdRel` says for each answer of the head reader, the statuses under libcbor's names -/
theorem SdRel.ok {t : Spec.Tok} {l : Nat} (h : SdRel off r s) (hs : s = .ok t l) :
    r.1.status = CBOR_DECODER_FINISHED ∧ r.1.read.toNat = l ∧ r.1.required = 0 ∧ ∃ e, r.2 = [e] ∧ tokMatch off e t = true := by
  subst hs; exact h

theorem SdRel.nedata {need : Nat} (h : SdRel off r s) (hs : s = .nedata need) :
    r.1.status = CBOR_DECODER_NEDATA ∧ r.1.read = 0 ∧ r.2 = [] ∧ r.1.required.toNat = min need (2 ^ 64 - 1) := by
  subst hs; exact h

theorem SdRel.error (h : SdRel off r s) (hs : s = .error) :
    r.1.status = CBOR_DECODER_ERROR ∧ r.1.read = 0 ∧ r.1.required = 0 ∧ r.2 = [] := by
  subst hs; exact h

end

theorem nedata_ne_finished : CBOR_DECODER_NEDATA ≠ CBOR_DECODER_FINISHED := by decide
theorem error_ne_finished : CBOR_DECODER_ERROR ≠ CBOR_DECODER_FINISHED := by decide
theorem error_ne_nedata : CBOR_DECODER_ERROR ≠ CBOR_DECODER_NEDATA := by decide

theorem SdRel.events {off : Nat} {r : S_cbor_decoder_result × List Event} {s : Spec.HeadRes} (h : SdRel off r s) :
    r.2 = [] ∨ ∃ e, r.2 = [e] ∧ r.1.status = CBOR_DECODER_FINISHED := by
  cases hs : s with
  | ok t l =>
    obtain ⟨hst, _, _, e, he, _⟩ := h.ok hs
    exact Or.inr ⟨e, he, hst⟩
  | nedata need => exact Or.inl (h.nedata hs).2.2.1
  | error => exact Or.inl (h.error hs).2.2.2

theorem decodeHead_pos {get : Nat → UInt8} {len b : Nat} (hb : (get 0).toNat = b) (h : len ≠ 0) :
    Spec.decodeHead get len =
      if b / 32 = 7 then Spec.decodeMt7 get len (b % 32) else Spec.decodeMtArg get len (b / 32) (b % 32) := by
  simp only [Spec.decodeHead, if_neg h, hb]

/-- major types 0..6 with the argument in the initial byte; the width recorded for it is that of additional information 0 -/
theorem decodeHead_imm {get : Nat → UInt8} {len b : Nat} (hb : (get 0).toNat = b) (h : len ≠ 0)
    (hi : b / 32 ≠ 7 ∧ b % 32 < 24) :
    Spec.decodeHead get len = Spec.tokOfArg (b / 32) 0 (b % 32) 1 len := by
  rw [decodeHead_pos hb h, if_neg hi.1, Spec.decodeMtArg, if_pos hi.2]
  have : Spec.widthOf (b % 32) = Spec.widthOf 0 := by
    unfold Spec.widthOf
    rw [if_neg (by omega), if_neg (by omega), if_neg (by omega)]
    rfl
  unfold Spec.tokOfArg
  rw [this]

/-- `tokOfArg` by major type, for a major type that is known only through a hypothesis -/
theorem tokOfArg_0 {mt ai v hl len : Nat} (h : mt = 0) :
    Spec.tokOfArg mt ai v hl len = .ok (.uint (Spec.widthOf ai) v) hl := by subst h; rfl
theorem tokOfArg_1 {mt ai v hl len : Nat} (h : mt = 1) :
    Spec.tokOfArg mt ai v hl len = .ok (.negint (Spec.widthOf ai) v) hl := by subst h; rfl
theorem tokOfArg_2 {mt ai v hl len : Nat} (h : mt = 2) :
    Spec.tokOfArg mt ai v hl len = if hl + v ≤ len then .ok (.bytes hl v) (hl + v) else .nedata (hl + v) := by subst h; rfl
theorem tokOfArg_3 {mt ai v hl len : Nat} (h : mt = 3) :
    Spec.tokOfArg mt ai v hl len = if hl + v ≤ len then .ok (.text hl v) (hl + v) else .nedata (hl + v) := by subst h; rfl
theorem tokOfArg_4 {mt ai v hl len : Nat} (h : mt = 4) : Spec.tokOfArg mt ai v hl len = .ok (.array v) hl := by subst h; rfl
theorem tokOfArg_5 {mt ai v hl len : Nat} (h : mt = 5) : Spec.tokOfArg mt ai v hl len = .ok (.map v) hl := by subst h; rfl
theorem tokOfArg_6 {mt ai v hl len : Nat} (h : mt = 6) : Spec.tokOfArg mt ai v hl len = .ok (.tag v) hl := by subst h; rfl

theorem beNat_1 (src : Array UInt8) (off : Nat) :
    Spec.beNat (Spec.getA src off) 1 1 = (_cbor_load_uint8 src (off + 1)).toNat := by
  simp [Spec.beNat, Spec.getA, _cbor_load_uint8]
theorem beNat_2 (src : Array UInt8) (off : Nat) :
    Spec.beNat (Spec.getA src off) 1 2 = (_cbor_load_uint16 src (off + 1)).toNat := by
  simp [Spec.beNat, Spec.getA, load16_toNat, Nat.add_assoc]
theorem beNat_4 (src : Array UInt8) (off : Nat) :
    Spec.beNat (Spec.getA src off) 1 4 = (_cbor_load_uint32 src (off + 1)).toNat := by
  simp [Spec.beNat, Spec.getA, load32_toNat, Nat.add_assoc]
theorem beNat_8 (src : Array UInt8) (off : Nat) :
    Spec.beNat (Spec.getA src off) 1 8 = (_cbor_load_uint64 src (off + 1)).toNat := by
  simp [Spec.beNat, Spec.getA, load64_toNat, Nat.add_assoc]

theorem load_half_eq (src : Array UInt8) (o : Nat) :
    Ext._cbor_load_half src o = Ext.decodeHalfBits (_cbor_load_uint16 src o).toNat := by
  simp [Ext._cbor_load_half, load16_toNat]

theorem load16_lt (s : Array UInt8) (o : Nat) : (_cbor_load_uint16 s o).toNat < 65536 := UInt16.toNat_lt _

/-- `x - k` of the embedded-argument cases (`_cbor_load_uint8(source) - 0x40` …), converted back to an unsigned type -/
theorem toU8_sub (x : UInt8) (k : Int) (h : 0 ≤ k ∧ k ≤ x.toNat) : (C.toU8 (x.toNat - k)).toNat = x.toNat - k.toNat := by
  have := x.toNat_lt
  simp only [C.toU8, UInt8.toNat_ofNat']
  omega
theorem toU64_sub (x : UInt8) (k : Int) (h : 0 ≤ k ∧ k ≤ x.toNat) : (C.toU64 (x.toNat - k)).toNat = x.toNat - k.toNat := by
  have := x.toNat_lt
  simp only [C.toU64, UInt64.toNat_ofNat']
  omega

/-- `_cbor_load_uint8(source) - 0x40` and the like fit `int` -/
theorem fits_u8_sub (x : UInt8) (k : Int) (hk : 0 ≤ k ∧ k ≤ 2 ^ 31) : C.fitsS 32 (x.toNat - k) = true := by
  have := x.toNat_lt
  simp only [C.fitsS, decide_eq_true_eq]
  omega

theorem sdRel_emit {off : Nat} {e : Event} {t : Spec.Tok} {rd : UInt64} {l : Nat}
    (ht : tokMatch off e t = true) (hl : rd.toNat = l) :
    SdRel off ({ read := rd, status := 0, required := 0 }, [e]) (.ok t l) :=
  ⟨rfl, hl, rfl, e, rfl, ht⟩

theorem sdRel_error {off : Nat} {s : Spec.HeadRes} (h : s = .error) :
    SdRel off ({ read := 0, status := 2, required := 0 }, []) s :=
  h ▸ ⟨rfl, rfl, rfl, rfl⟩

/-- a refused claim: `required` is the total wanted, saturated at `SIZE_MAX` -/
theorem sdRel_short {off : Nat} {req rd : UInt64} :
    SdRel off ({ read := 0, status := 1,
                 required := if req.toNat + rd.toNat < 2 ^ 64 then req + rd else 18446744073709551615 }, [])
      (.nedata (rd.toNat + req.toNat)) := by
  refine ⟨rfl, rfl, rfl, ?_⟩
  have := req.toNat_lt
  have := rd.toNat_lt
  split <;> simp only [UInt64.toNat_add, UInt64.reduceToNat] <;> omega

/-- `if (claim_bytes(k, …)) callback(…); return result;` after the initial byte (also `CLAIM_BYTES_AND_INVOKE`):
the head occupies `1 + k` bytes -/
theorem sdRel_claim {off : Nat} {n k : UInt64} {e : Event} {t : Spec.Tok} {l : Nat}
    (h1 : n.toNat ≠ 0) (hl : 1 + k.toNat = l) (ht : tokMatch off e t = true) :
    SdRel off
      (if (claim_bytes k n { read := 1, status := 0, required := 0 }).1 = true then
        ((claim_bytes k n { read := 1, status := 0, required := 0 }).2, [e])
       else ((claim_bytes k n { read := 1, status := 0, required := 0 }).2, []))
      (if l ≤ n.toNat then .ok t l else .nedata l) := by
  subst hl
  have hn := n.toNat_lt
  rw [claim_bytes_eq k n 1 (by simp only [UInt64.reduceToNat]; omega)]
  simp only [UInt64.reduceToNat]
  split
  · simp only [↓reduceIte]
    refine sdRel_emit ht ?_
    simp only [UInt64.toNat_add, UInt64.reduceToNat]
    omega
  · simp only [Bool.false_eq_true, ↓reduceIte]
    exact sdRel_short (req := k) (rd := 1)

/-- `READ_CLAIM_INVOKE`: `k` bytes of length, then a payload of that length -/
theorem sdRel_claim₂ {off : Nat} {n k v : UInt64} {e : Event} {t : Spec.Tok} {l w : Nat}
    (h1 : n.toNat ≠ 0) (hl : 1 + k.toNat = l) (hw : v.toNat = w) (ht : tokMatch off e t = true) :
    SdRel off
      (if (claim_bytes k n { read := 1, status := 0, required := 0 }).1 = true then
        if (claim_bytes v n (claim_bytes k n { read := 1, status := 0, required := 0 }).2).1 = true then
          ((claim_bytes v n (claim_bytes k n { read := 1, status := 0, required := 0 }).2).2, [e])
        else ((claim_bytes v n (claim_bytes k n { read := 1, status := 0, required := 0 }).2).2, [])
       else ((claim_bytes k n { read := 1, status := 0, required := 0 }).2, []))
      (if l ≤ n.toNat then (if l + w ≤ n.toNat then .ok t (l + w) else .nedata (l + w)) else .nedata l) := by
  subst hl hw
  have hn := n.toNat_lt
  rw [claim_bytes_eq k n 1 (by simp only [UInt64.reduceToNat]; omega)]
  simp only [UInt64.reduceToNat]
  split
  · have hk : (1 + k).toNat = 1 + k.toNat := by
      simp only [UInt64.toNat_add, UInt64.reduceToNat]
      omega
    simp only [↓reduceIte]
    rw [claim_bytes_eq v n (1 + k) (by omega), hk]
    split
    · simp only [↓reduceIte]
      refine sdRel_emit ht ?_
      rw [UInt64.toNat_add, hk]
      omega
    · simp only [Bool.false_eq_true, ↓reduceIte]
      rw [← hk]
      exact sdRel_short
  · simp only [Bool.false_eq_true, ↓reduceIte]
    exact sdRel_short (req := k) (rd := 1)

/-- `if (claim_bytes(k, …)) { … load … }`: what follows a granted claim may rely on `1 + k` bytes -/
theorem ok_claim {n k : UInt64} {x : Bool} (h1 : n.toNat ≠ 0) (hx : 1 + k.toNat ≤ n.toNat → x = true) :
    (if (claim_bytes k n { read := 1, status := 0, required := 0 }).1 = true then x else true) = true := by
  rw [claim_bytes_eq k n 1 (by simp only [UInt64.reduceToNat]; omega)]
  simp only [UInt64.reduceToNat]
  split
  · exact hx ‹_›
  · rfl

end Lemmas
