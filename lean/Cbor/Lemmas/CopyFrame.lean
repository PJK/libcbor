import Cbor.Lemmas.Counts
/-! `cbor_copy` leaves every pre-existing item untouched and builds its result out of new items only. -/
namespace Heap

/-- relative to the `N` items that existed when the copy started: they all read as before (contents *and* counts),
and every newer item refers to newer items only -/
def Fr (N : Nat) (h0 h : H) : Prop :=
  N ≤ h.cells.length ∧ (∀ r, r < N → h.get r = h0.get r) ∧ (∀ r c, N ≤ r → h.get r = some c → ∀ x ∈ c.node.children, N ≤ x)

theorem Fr.len {N : Nat} {h0 h : H} (hf : Fr N h0 h) : N ≤ h.cells.length := hf.1
theorem Fr.old {N : Nat} {h0 h : H} (hf : Fr N h0 h) {r : Ref} (hr : r < N) : h.get r = h0.get r := hf.2.1 r hr
theorem Fr.new {N : Nat} {h0 h : H} (hf : Fr N h0 h) {r : Ref} {c : Cell} (hr : N ≤ r) (hg : h.get r = some c) :
    ∀ x ∈ c.node.children, N ≤ x := hf.2.2 r c hr hg

theorem Fr.refl (h : H) : Fr h.cells.length h h :=
  ⟨Nat.le_refl _, fun _ _ => rfl, fun _ _ hr hg => absurd (get_lt hg) (Nat.not_lt.mpr hr)⟩

theorem fr_congr {N : Nat} {h0 h h' : H} (hf : Fr N h0 h) (e : h'.cells = h.cells) : Fr N h0 h' :=
  ⟨by rw [e]; exact hf.len, fun r hr => by rw [get_congr e]; exact hf.old hr, fun r c hr hg => hf.new hr (by rw [← get_congr e]; exact hg)⟩

theorem fr_bad {N : Nat} {h0 h : H} (hf : Fr N h0 h) : Fr N h0 h.bad := fr_congr hf rfl

theorem fr_put {N : Nat} {h0 h : H} (hf : Fr N h0 h) (a : Ref) (ha : N ≤ a) (c' : Option Cell)
    (hn : ∀ c, c' = some c → ∀ x ∈ c.node.children, N ≤ x) : Fr N h0 (h.put a c') :=
  ⟨by simp; exact hf.len, fun r hr => by rw [get_put_other _ _ _ _ (Nat.ne_of_lt (Nat.lt_of_lt_of_le hr ha))]; exact hf.old hr, fun r c hr hg => by
    rcases get_put_some hg with ⟨_, e⟩ | ⟨_, e⟩
    · exact hn c e
    · exact hf.new hr e⟩

theorem fr_incref {N : Nat} {h0 h : H} (hf : Fr N h0 h) (x : Ref) (hx : N ≤ x) : Fr N h0 (h.incref x) := by
  unfold H.incref
  cases hg : h.get x with
  | none => exact fr_bad hf
  | some c => exact fr_put hf x hx _ (fun c' hc' => by cases hc'; exact hf.new (c := c) hx hg)

theorem fr_decref {N : Nat} {h0 h : H} (hf : Fr N h0 h) (x : Ref) (hx : N ≤ x) : Fr N h0 (h.decref x) :=
  decref_induction (P := Fr N h0) (G := fun y => N ≤ y) (fun _ => fr_bad)
    (fun _ r c p hr hg => ⟨fr_put p r hr none (fun _ e => by cases e), p.new hr hg⟩)
    (fun _ r c p hr hg _ => fr_put p r hr _ (fun c' e => by cases e; exact p.new (c := c) hr hg)) _ h x hf hx

theorem newPost_fr {n : Node} {h : H} {r : Option Ref × H} {N : Nat} {h0 : H} (hp : NewPost n h r) (hn : n.children = [])
    (hf : Fr N h0 h) : Fr N h0 r.2 ∧ ∀ y, r.1 = some y → N ≤ y := by
  obtain ⟨o, h'⟩ := r
  cases o with
  | none => exact ⟨fr_congr hf hp.2, nofun⟩
  | some y =>
    obtain ⟨rfl, e, _⟩ := hp.granted
    have h1 := hf.len
    refine ⟨⟨by rw [e]; simp; omega, fun r hr => ?_, fun r c hr hg => ?_⟩, fun _ e => by cases e; exact h1⟩
    · rw [get_snoc_other e r (by omega)]; exact hf.old hr
    · rcases get_snoc_some e hg with ⟨_, rfl⟩ | ⟨_, g⟩
      · rw [hn]; nofun
      · exact hf.new hr g

theorem relink_fr {h h' : H} {a : Ref} {del add : List Ref} {N : Nat} {h0 : H} (l : Relink h a del add h') (hf : Fr N h0 h)
    (ha : N ≤ a) (hadd : ∀ x ∈ add, N ≤ x) : Fr N h0 h' := by
  obtain ⟨h1, c, c', e, _, hg, _, hch, rfl⟩ := l
  refine foldl_inv (P := Fr N h0) (G := fun y => N ≤ y) H.incref (fun _ x p g => fr_incref p x g) add _ ?_ hadd
  refine fr_put (fr_congr hf e) a ha _ fun c0 e0 y hy => ?_
  cases e0
  rcases mem_of_relinked hch (List.mem_append_left _ hy) with m | m
  · exact hf.new ha hg y m
  · exact hadd y m

theorem linkPost_fr {h : H} {a : Ref} {xs : List Ref} {r : Bool × H} {N : Nat} {h0 : H} (l : LinkPost h a [] xs r) (hf : Fr N h0 h)
    (ha : N ≤ a) (hxs : ∀ x ∈ xs, N ≤ x) : Fr N h0 r.2 := by
  obtain ⟨ok, h'⟩ := r
  cases ok with
  | false => exact fr_congr hf l.1
  | true => obtain ⟨h1, l, rfl⟩ := l; exact relink_fr l hf ha hxs

theorem buildTag_fr {N : Nat} {h0 h : H} (hf : Fr N h0 h) (ω : Oracle) (n : Nat) (x : Ref) (hx : N ≤ x) :
    Fr N h0 (buildTag ω h n x).2 ∧ ∀ r, (buildTag ω h n x).1 = some r → N ≤ r := by
  rcases buildTag_post ω h n x with ⟨h', e, hc, _⟩ | ⟨t, h1, h', e, hp, hl⟩ <;> rw [e]
  · exact ⟨fr_congr hf hc, nofun⟩
  · obtain ⟨f1, hy⟩ := newPost_fr hp rfl hf
    exact ⟨relink_fr hl f1 (hy t rfl) (by simpa using hx), hy⟩

mutual
theorem Copies.fr {ω : Oracle} {N : Nat} {h0 : H} (hold : Closed N h0)
    {h : H} {r : Ref} {out : Option Ref × H} :
    Copies ω h r out → Fr N h0 h → r < N → Fr N h0 out.2 ∧ ∀ r', out.1 = some r' → N ≤ r'
  | .bad _ _, hf, _ => ⟨fr_bad hf, nofun⟩
  | .alloc _ hn hp _, hf, _ => newPost_fr hp hn hf
  | .members (c := c) hg hn hp k, hf, hr =>
    have ⟨f1, hy⟩ := newPost_fr hp hn hf
    k.fr hold f1 (hy _ rfl) (hold r c hr ((hf.old hr).symm.trans hg))
  | .tag0 (c := c) (x := x) hg hc cx, hf, hr =>
    cx.fr hold hf (hold r c hr ((hf.old hr).symm.trans hg) x (by simp [hc]))
  | .tag1 (c := c) (n := n) (x := x) (xc := xc) hg hc cx, hf, hr =>
    have ⟨f1, hy⟩ := cx.fr hold hf (hold r c hr ((hf.old hr).symm.trans hg) x (by simp [hc, Node.children]))
    have ⟨f2, ht⟩ := buildTag_fr f1 ω n xc (hy xc rfl)
    ⟨fr_decref f2 xc (hy xc rfl), ht⟩
theorem CopiesInto.fr {ω : Oracle} {N : Nat} {h0 : H} (hold : Closed N h0)
    {h : H} {res : Ref} {xs : List Ref} {out : Option Ref × H} :
    CopiesInto ω h res xs out → Fr N h0 h → N ≤ res → (∀ x ∈ xs, x < N) → Fr N h0 out.2 ∧ ∀ r', out.1 = some r' → N ≤ r'
  | .bad _ _ _, hf, _, _ => ⟨fr_bad hf, nofun⟩
  | .nil _ _, hf, hres, _ => ⟨hf, fun _ e => by cases e; exact hres⟩
  | .item0 c, hf, hres, hxs => ⟨fr_decref (c.fr hold hf (hxs _ (by simp))).1 res hres, nofun⟩
  | .item1 (e := e) c l, hf, hres, hxs =>
    have ⟨f1, he⟩ := c.fr hold hf (hxs _ (by simp))
    ⟨fr_decref (fr_decref (linkPost_fr l f1 hres (by simpa using he e rfl)) e (he e rfl)) res hres, nofun⟩
  | .item2 (e := e) c l k, hf, hres, hxs =>
    have ⟨f1, he⟩ := c.fr hold hf (hxs _ (by simp))
    k.fr hold (fr_decref (linkPost_fr l f1 hres (by simpa using he e rfl)) e (he e rfl)) hres (fun y hy => hxs y (by simp [hy]))
  | .pair0 (kc := kc) ck cv, hf, hres, hxs =>
    have ⟨f1, hk⟩ := ck.fr hold hf (hxs _ (by simp))
    ⟨fr_decref (fr_decref (cv.fr hold f1 (hxs _ (by simp))).1 res hres) kc (hk kc rfl), nofun⟩
  | .pair1 (kc := kc) (vc := vc) ck cv l, hf, hres, hxs =>
    have ⟨f1, hk⟩ := ck.fr hold hf (hxs _ (by simp))
    have ⟨f2, hv⟩ := cv.fr hold f1 (hxs _ (by simp))
    have f3 := linkPost_fr l f2 hres (by simpa using ⟨hk kc rfl, hv vc rfl⟩)
    ⟨fr_decref (fr_decref (fr_decref f3 res hres) kc (hk kc rfl)) vc (hv vc rfl), nofun⟩
  | .pair2 (kc := kc) (vc := vc) ck cv l k, hf, hres, hxs =>
    have ⟨f1, hk⟩ := ck.fr hold hf (hxs _ (by simp))
    have ⟨f2, hv⟩ := cv.fr hold f1 (hxs _ (by simp))
    have f3 := linkPost_fr l f2 hres (by simpa using ⟨hk kc rfl, hv vc rfl⟩)
    k.fr hold (fr_decref (fr_decref f3 kc (hk kc rfl)) vc (hv vc rfl)) hres (fun y hy => hxs y (by simp [hy]))
end

/-- C11, the source is untouched and the copy is new: under any allocator oracle `cbor_copy` leaves every pre-existing item
exactly as it was — contents *and* reference counts — whether it succeeds or fails, and the copy's root (like every item
of the copy) did not exist before. -/
theorem copy_frame_all (ω : Oracle) (N : Nat) (h0 : H)
    (hold : ∀ r c, r < N → h0.get r = some c → ∀ x ∈ c.node.children, x < N) : ∀ f : Nat,
    (∀ h r, Fr N h0 h → r < N → Fr N h0 (copy ω f h r).2 ∧ ∀ r', (copy ω f h r).1 = some r' → N ≤ r') ∧
    (∀ h res xs, Fr N h0 h → N ≤ res → (∀ x ∈ xs, x < N) →
      Fr N h0 (copyItems ω f h res xs).2 ∧ ∀ r', (copyItems ω f h res xs).1 = some r' → N ≤ r') ∧
    (∀ h res xs, Fr N h0 h → N ≤ res → (∀ x ∈ xs, x < N) →
      Fr N h0 (copyChunks ω f h res xs).2 ∧ ∀ r', (copyChunks ω f h res xs).1 = some r' → N ≤ r') ∧
    (∀ h res ps, Fr N h0 h → N ≤ res → (∀ kv ∈ ps, kv.1 < N ∧ kv.2 < N) →
      Fr N h0 (copyPairs ω f h res ps).2 ∧ ∀ r', (copyPairs ω f h res ps).1 = some r' → N ≤ r') := fun f =>
  have ⟨a, b, c, d⟩ := copy_paths ω f
  ⟨fun h r => (a h r).fr hold, fun h res xs => (b h res xs).fr hold, fun h res xs => (c h res xs).fr hold,
   fun h res ps hf hres hps => (d h res ps).fr hold hf hres (forall_flat.mpr hps)⟩

end Heap
