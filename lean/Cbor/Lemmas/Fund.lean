import Cbor.Model.Abs
import Cbor.Spec.DecodeLemmas
/-!
# The fundamental lemma: the stack machine `Abs.run` computes the reference decoder `Spec.item`

For every buffer, offset, nesting limit and allocation predicate: running the stack machine from stack `s`
over the bytes of an item the reference decoder accepts delivers exactly that item to `s` and stops at the
same offset; and where the reference decoder reports an error, the machine stops with the same error at
the same offset (lazy reporting inside chunked strings).  One induction on the fuel of the reference
decoder, simultaneously for items and for the five kinds of member sequences.
-/
namespace Lemmas.Fund
open Spec Abs

variable {L : Nat} {okA : AllocOk} {get : Nat → UInt8} {len : Nat}

theorem run_fuel : ∀ (F1 F2 : Nat) (s : List Frame) (p : Nat), F1 > len - p → F2 > len - p →
    run L okA get len F1 s p = run L okA get len F2 s p := by
  intro F1
  induction F1 with
  | zero => intro F2 s p h; omega
  | succ F1 ih =>
    intro F2 s p h1 h2
    obtain ⟨F2, rfl⟩ : ∃ k, F2 = k + 1 := ⟨F2 - 1, by omega⟩
    rw [run_succ, run_succ]
    cases hh : headAt get len p with
    | nedata n => rfl
    | error => rfl
    | ok tok l =>
      have hl := headAt_ok hh
      simp only
      cases stepTok L okA get p tok s with
      | cont s' => simp only [resume]; exact ih F2 s' (p + l) (by omega) (by omega)
      | done x => rfl
      | syn => rfl
      | mem => rfl

def RunsTo (L : Nat) (okA : AllocOk) (get : Nat → UInt8) (len : Nat) (s : List Frame) (p : Nat) (out : Out) (q : Nat) : Prop :=
  ∀ F F', F > len - p → F' > len - q → run L okA get len F s p = resume L okA get len F' out q

def RunsErr (L : Nat) (okA : AllocOk) (get : Nat → UInt8) (len : Nat) (s : List Frame) (p : Nat) (e : Err) (r : Nat) : Prop :=
  ∀ F, F > len - p → run L okA get len F s p = .err e r

theorem resume_fuel (F1 F2 : Nat) (out : Out) (q : Nat) (h1 : F1 > len - q) (h2 : F2 > len - q) :
    resume L okA get len F1 out q = resume L okA get len F2 out q := by
  cases out with
  | cont s => simp only [resume]; exact run_fuel F1 F2 s q h1 h2
  | done x => rfl
  | syn => rfl
  | mem => rfl

theorem step_runs {s : List Frame} {p : Nat} {tok : Tok} {l : Nat} (h : headAt get len p = .ok tok l) :
    RunsTo L okA get len s p (stepTok L okA get p tok s) (p + l) := by
  intro F F' hF hF'
  have hl := headAt_ok h
  obtain ⟨F, rfl⟩ : ∃ k, F = k + 1 := ⟨F - 1, by omega⟩
  rw [run_succ, h]
  exact resume_fuel F F' _ _ (by omega) hF'

theorem runsTo_trans {s s' : List Frame} {p q r : Nat} {out : Out}
    (h1 : RunsTo L okA get len s p (.cont s') q) (h2 : RunsTo L okA get len s' q out r) :
    RunsTo L okA get len s p out r := by
  intro F F' hF hF'
  rw [h1 F (len - q + 1) hF (by omega)]
  simp only [resume]
  exact h2 _ F' (by omega) hF'

theorem runsTo_err {s s' : List Frame} {p q r : Nat} {e : Err}
    (h1 : RunsTo L okA get len s p (.cont s') q) (h2 : RunsErr L okA get len s' q e r) :
    RunsErr L okA get len s p e r := by
  intro F hF
  rw [h1 F (len - q + 1) hF (by omega)]
  simp only [resume]
  exact h2 _ (by omega)

theorem runsTo_syn {s : List Frame} {p q : Nat} (h1 : RunsTo L okA get len s p .syn q) :
    RunsErr L okA get len s p .syntax q := by
  intro F hF
  rw [h1 F (len - q + 1) hF (by omega)]; rfl

theorem runsTo_mem {s : List Frame} {p q : Nat} (h1 : RunsTo L okA get len s p .mem q) :
    RunsErr L okA get len s p .mem q := by
  intro F hF
  rw [h1 F (len - q + 1) hF (by omega)]; rfl

/-- The machine, started at `p` on stack `s`, agrees with the verdict `r` of a reader: where the reader returns `a`
and stops at `q` the machine gets to outcome `k a` at `q`; where it reports an error the machine stops with it. -/
def Sim (L : Nat) (okA : AllocOk) (get : Nat → UInt8) (len : Nat) {α : Type} (s : List Frame) (p : Nat) (k : α → Out) :
    Res α → Prop
  | .ok a q => p < q ∧ q ≤ len ∧ RunsTo L okA get len s p (k a) q
  | .err e r => RunsErr L okA get len s p e r

section
variable {α : Type} {s : List Frame} {p : Nat} {k : α → Out}

theorem Sim.cont {s' : List Frame} {q : Nat} {r : Res α} (hpq : p < q)
    (h1 : RunsTo L okA get len s p (.cont s') q) (h2 : Sim L okA get len s' q k r) : Sim L okA get len s p k r := by
  cases r with
  | ok a t => exact ⟨Nat.lt_trans hpq h2.1, h2.2.1, runsTo_trans h1 h2.2.2⟩
  | err e t => exact runsTo_err h1 h2

theorem Sim.nedata {n : Nat} (h : headAt get len p = .nedata n) : Sim L okA get len s p k (.err .notEnough p) := by
  intro F hF
  obtain ⟨F, rfl⟩ : ∃ k, F = k + 1 := ⟨F - 1, by omega⟩
  rw [run_succ, h]

theorem Sim.error (h : headAt get len p = .error) : Sim L okA get len s p k (.err .malformed p) := by
  intro F hF
  obtain ⟨F, rfl⟩ : ∃ k, F = k + 1 := ⟨F - 1, by omega⟩
  rw [run_succ, h]

variable {tok : Tok} {l : Nat} (hh : headAt get len p = .ok tok l)
include hh

theorem Sim.step {a : α} (hs : stepTok L okA get p tok s = k a) : Sim L okA get len s p k (.ok a (p + l)) := by
  have hl := headAt_ok hh
  exact ⟨by omega, hl.2, hs ▸ step_runs hh⟩

theorem Sim.syn (hs : stepTok L okA get p tok s = .syn) : Sim L okA get len s p k (.err .syntax (p + l)) :=
  runsTo_syn (hs ▸ step_runs hh)

theorem Sim.mem (hs : stepTok L okA get p tok s = .mem) : Sim L okA get len s p k (.err .mem (p + l)) :=
  runsTo_mem (hs ▸ step_runs hh)

theorem Sim.opens {β : Type} {d : Nat} {fr : Frame} {mk : β → Item} {body : Res β} (hd : s.length = d)
    (hst : stepTok L okA get p tok s = push L fr s)
    (hb : Sim L okA get len (fr :: s) (p + l) (fun a => deliver (mk a) s) body) :
    Sim L okA get len s p (fun x => deliver x s) (if d ≥ L then .err .mem (p + l) else body.map mk) := by
  have hl := headAt_ok hh
  by_cases hdl : d ≥ L
  · rw [if_pos hdl]
    exact Sim.mem hh (by rw [hst, push, if_pos (hd ▸ hdl)])
  · rw [if_neg hdl]
    have hstep := step_runs (L := L) (okA := okA) (s := s) hh
    rw [hst, push, if_neg (hd ▸ hdl)] at hstep
    cases body <;> exact Sim.cont (by omega) hstep hb

theorem Sim.chunk {c : Prop} [Decidable c] {s' : List Frame} {r : Res α}
    (hst : stepTok L okA get p tok s = if c then .cont s' else .syn) (hr : c → Sim L okA get len s' (p + l) k r) :
    Sim L okA get len s p k (if c then r else .err .syntax (p + l)) := by
  have hl := headAt_ok hh
  by_cases hc : c
  · rw [if_pos hc] at hst ⊢
    exact Sim.cont (by omega) (hst ▸ step_runs hh) (hr hc)
  · rw [if_neg hc] at hst ⊢
    exact Sim.syn hh hst

end

/-- the head `tok` is not one the top frame of `s` treats specially (a break closing it, or a chunk of it) -/
def Plain (s : List Frame) (tok : Tok) : Prop :=
  match s, tok with
  | .arrI _ :: _, .brk => False
  | .mapI _ none :: _, .brk => False
  | .bstr _ :: _, .brk => False
  | .tstr _ :: _, .brk => False
  | .bstr _ :: _, .bytes _ _ => False
  | .tstr _ :: _, .text _ _ => False
  | _, _ => True

theorem plain_arr (n : Nat) (xs : List Item) (s : List Frame) (tok : Tok) : Plain (.arr n xs :: s) tok := by
  cases tok <;> simp [Plain]
theorem plain_map (n : Nat) (kvs : List (Item × Item)) (k : Option Item) (s : List Frame) (tok : Tok) :
    Plain (.map n kvs k :: s) tok := by
  cases tok <;> simp [Plain]
theorem plain_tag (n : Nat) (s : List Frame) (tok : Tok) : Plain (.tag n :: s) tok := by
  cases tok <;> simp [Plain]
theorem plain_value (kvs : List (Item × Item)) (k : Item) (s : List Frame) (tok : Tok) : Plain (.mapI kvs (some k) :: s) tok := by
  cases tok <;> simp [Plain]
theorem plain_arrI {tok : Tok} (h : tok ≠ .brk) (xs : List Item) (s : List Frame) : Plain (.arrI xs :: s) tok := by
  cases tok <;> simp [Plain] at h ⊢
theorem plain_key {tok : Tok} (h : tok ≠ .brk) (kvs : List (Item × Item)) (s : List Frame) :
    Plain (.mapI kvs none :: s) tok := by
  cases tok <;> simp [Plain] at h ⊢

theorem stepTok_bytes {s : List Frame} {p o n : Nat} (hok : okA (.bytes o n) = true) (hpl : Plain s (.bytes o n)) :
    stepTok L okA get p (.bytes o n) s = deliver (.bytes (slice get (p + o) n)) s := by
  rcases s with _ | ⟨fr, rest⟩
  · simp [stepTok, hok]
  · cases fr <;> simp [stepTok, hok, Plain] at hpl ⊢

theorem stepTok_text {s : List Frame} {p o n : Nat} (hok : okA (.text o n) = true) (hpl : Plain s (.text o n)) :
    stepTok L okA get p (.text o n) s = deliver (.text (slice get (p + o) n)) s := by
  rcases s with _ | ⟨fr, rest⟩
  · simp [stepTok, hok]
  · cases fr <;> simp [stepTok, hok, Plain] at hpl ⊢

theorem stepTok_brk {s : List Frame} {p : Nat} (hok : okA .brk = true) (hpl : Plain s .brk) :
    stepTok L okA get p .brk s = .syn := by
  rcases s with _ | ⟨fr, rest⟩
  · simp [stepTok, hok]
  · rcases fr with _ | _ | _ | ⟨_, _ | _⟩ | _ | _ | _ <;> simp [stepTok, hok, Plain] at hpl ⊢

def strFrame (mt : Nat) (cs : List (List UInt8)) : Frame := if mt = 2 then .bstr cs else .tstr cs
def strItem (mt : Nat) (cs : List (List UInt8)) : Item := if mt = 2 then .bytesI cs else .textI cs

theorem plain_in_string {mt : Nat} (hmt : mt = 2 ∨ mt = 3) (cs : List (List UInt8)) (s : List Frame) {tok : Tok}
    (hop : tok.opens = true) : Plain (strFrame mt cs :: s) tok := by
  rcases hmt with rfl | rfl <;> cases tok <;> simp [Plain, strFrame, Tok.opens] at hop ⊢

theorem step_in_string {mt : Nat} (hmt : mt = 2 ∨ mt = 3) (cs : List (List UInt8)) (s : List Frame) (p : Nat) {tok : Tok}
    (hok : okA tok = true) (hno : tok.opens = false) (hnb : tok ≠ .brk) (hnc : ∀ o n, tok ≠ .bytes o n ∧ tok ≠ .text o n) :
    stepTok L okA get p tok (strFrame mt cs :: s) = .syn := by
  rcases hmt with rfl | rfl <;> cases tok <;> simp_all [stepTok, strFrame, deliver, Tok.opens]

/-- what the reference decoder's verdict on an item, and on each kind of member sequence, means for the machine.
Fuel: `item` spends one unit on a head and a sequence reader one more before it calls `item`; a head has at least one
byte, so two units for every byte left are enough, and a sequence reader needs one unit more (`+ 3`) than `item` (`+ 2`)
at the same offset. -/
def ItemOK (L : Nat) (okA : AllocOk) (get : Nat → UInt8) (len : Nat) (f : Nat) : Prop :=
  ∀ p d s, List.length s = d → f ≥ 2 * (len - p) + 2 → (∀ tok l, headAt get len p = .ok tok l → Plain s tok) →
    Sim L okA get len s p (fun x => deliver x s) (item true L okA get len f p d)

def ElemsOK (L : Nat) (okA : AllocOk) (get : Nat → UInt8) (len : Nat) (f : Nat) : Prop :=
  ∀ n p d s acc, List.length s + 1 = d → f ≥ 2 * (len - p) + 3 → n ≥ 1 →
    Sim L okA get len (.arr n acc.reverse :: s) p (fun all => deliver (.array all) s) (elems true L okA get len f n p d acc)

def ElemsIOK (L : Nat) (okA : AllocOk) (get : Nat → UInt8) (len : Nat) (f : Nat) : Prop :=
  ∀ p d s acc, List.length s + 1 = d → f ≥ 2 * (len - p) + 3 →
    Sim L okA get len (.arrI acc.reverse :: s) p (fun all => deliver (.arrayI all) s) (elemsI true L okA get len f p d acc)

def PairsOK (L : Nat) (okA : AllocOk) (get : Nat → UInt8) (len : Nat) (f : Nat) : Prop :=
  ∀ n p d s acc, List.length s + 1 = d → f ≥ 2 * (len - p) + 3 → n ≥ 1 →
    Sim L okA get len (.map (2 * n) acc.reverse none :: s) p (fun all => deliver (.map all) s)
      (pairs true L okA get len f n p d acc)

def PairsIOK (L : Nat) (okA : AllocOk) (get : Nat → UInt8) (len : Nat) (f : Nat) : Prop :=
  ∀ p d s acc, List.length s + 1 = d → f ≥ 2 * (len - p) + 3 →
    Sim L okA get len (.mapI acc.reverse none :: s) p (fun all => deliver (.mapI all) s) (pairsI true L okA get len f p d acc)

def ChunksOK (L : Nat) (okA : AllocOk) (get : Nat → UInt8) (len : Nat) (f : Nat) : Prop :=
  ∀ mt p d s acc, (mt = 2 ∨ mt = 3) → List.length s + 1 = d → f ≥ 2 * (len - p) + 3 →
    Sim L okA get len (strFrame mt acc.reverse :: s) p (fun all => deliver (strItem mt all) s)
      (chunks true L okA get len f mt p d acc)

theorem item_step (f : Nat)
    (hI : ItemOK L okA get len f) (hE : ElemsOK L okA get len f) (hEI : ElemsIOK L okA get len f)
    (hP : PairsOK L okA get len f) (hPI : PairsIOK L okA get len f) (hC : ChunksOK L okA get len f) :
    ItemOK L okA get len (f + 1) := by
  intro p d s hd hf hplain
  cases hh : headAt get len p with
  | nedata n => simp only [item, hh]; exact Sim.nedata hh
  | error => simp only [item, hh]; exact Sim.error hh
  | ok tok l =>
    have hl := headAt_ok hh
    have hpl := hplain tok l hh
    cases hok : okA tok with
    | false =>
      simp only [item, hh, hok, Bool.not_false, if_true]
      exact Sim.mem hh (by simp [stepTok, hok])
    | true =>
      rw [item_succ_head hh hok]
      cases tok <;> simp only []
      case uint | negint | half | single | double | bool | null | undefined =>
        exact Sim.step hh (by rw [stepTok, hok]; rfl)
      case bytes o n => exact Sim.step hh (stepTok_bytes hok hpl)
      case text o n => exact Sim.step hh (stepTok_text hok hpl)
      case brk => exact Sim.syn hh (stepTok_brk hok hpl)
      case tag n =>
        exact Sim.opens hh hd (by rw [stepTok, hok]; rfl)
          (hI (p + l) (d + 1) (.tag n :: s) (by simp [hd]) (by omega) (fun t _ _ => plain_tag n s t))
      case array n =>
        by_cases hn : n = 0
        · subst hn; exact Sim.step hh (by rw [stepTok, hok]; rfl)
        · rw [if_neg hn]
          exact Sim.opens hh hd (by rw [stepTok, hok]; simp [hn]) (hE n (p + l) (d + 1) s [] (by simp [hd]) (by omega) (by omega))
      case arrayStart =>
        exact Sim.opens hh hd (by rw [stepTok, hok]; rfl) (hEI (p + l) (d + 1) s [] (by simp [hd]) (by omega))
      case map n =>
        by_cases hn : n = 0
        · subst hn; exact Sim.step hh (by rw [stepTok, hok]; rfl)
        · rw [if_neg hn]
          exact Sim.opens hh hd (by rw [stepTok, hok]; simp [hn]) (hP n (p + l) (d + 1) s [] (by simp [hd]) (by omega) (by omega))
      case mapStart =>
        exact Sim.opens hh hd (by rw [stepTok, hok]; rfl) (hPI (p + l) (d + 1) s [] (by simp [hd]) (by omega))
      case bytesStart =>
        exact Sim.opens hh hd (by rw [stepTok, hok]; rfl) (hC 2 (p + l) (d + 1) s [] (Or.inl rfl) (by simp [hd]) (by omega))
      case textStart =>
        exact Sim.opens hh hd (by rw [stepTok, hok]; rfl) (hC 3 (p + l) (d + 1) s [] (Or.inr rfl) (by simp [hd]) (by omega))

theorem elems_step (f : Nat) (hI : ItemOK L okA get len f) (hE : ElemsOK L okA get len f) :
    ElemsOK L okA get len (f + 1) := by
  intro n p d s acc hd hf hn
  obtain ⟨m, rfl⟩ : ∃ m, n = m + 1 := ⟨n - 1, by omega⟩
  rw [elems]
  have hi := hI p d (.arr (m + 1) acc.reverse :: s) (by simp [hd]) (by omega) (fun t _ _ => plain_arr _ _ _ t)
  cases hr : item true L okA get len f p d with
  | err e r => rw [hr] at hi; exact hi
  | ok x q =>
    rw [hr] at hi
    obtain ⟨h1, h2, h3⟩ := hi
    simp only
    by_cases hm : m = 0
    · subst hm
      obtain ⟨f', rfl⟩ : ∃ k, f = k + 1 := ⟨f - 1, by omega⟩
      rw [elems]
      exact ⟨h1, h2, by simpa [deliver] using h3⟩
    · have hd1 : deliver x (.arr (m + 1) acc.reverse :: s) = .cont (.arr m (acc.reverse ++ [x]) :: s) := by
        simp [deliver]; omega
      simp only [hd1] at h3
      exact Sim.cont h1 h3 (by simpa using hE m q d s (x :: acc) hd (by omega) (by omega))

theorem elemsI_step (hbrk : okA .brk = true) (f : Nat) (hI : ItemOK L okA get len f) (hEI : ElemsIOK L okA get len f) :
    ElemsIOK L okA get len (f + 1) := by
  intro p d s acc hd hf
  by_cases hb : ∃ l, headAt get len p = .ok .brk l
  · obtain ⟨l, hh⟩ := hb
    simp only [elemsI, hh]
    exact Sim.step hh (by rw [stepTok, hbrk]; rfl)
  · rw [elemsI_succ (fun l h => hb ⟨l, h⟩)]
    have hi := hI p d (.arrI acc.reverse :: s) (by simp [hd]) (by omega)
      (fun tok l h => plain_arrI (fun e => hb ⟨l, e ▸ h⟩) _ _)
    cases hr : item true L okA get len f p d with
    | err e r => rw [hr] at hi; exact hi
    | ok x q =>
      rw [hr] at hi
      obtain ⟨h1, h2, h3⟩ := hi
      exact Sim.cont h1 h3 (by simpa using hEI q d s (x :: acc) hd (by omega))

theorem pairs_step (f : Nat) (hI : ItemOK L okA get len f) (hP : PairsOK L okA get len f) :
    PairsOK L okA get len (f + 1) := by
  intro n p d s acc hd hf hn
  obtain ⟨m, rfl⟩ : ∃ m, n = m + 1 := ⟨n - 1, by omega⟩
  rw [pairs]
  have hi := hI p d (.map (2 * (m + 1)) acc.reverse none :: s) (by simp [hd]) (by omega) (fun t _ _ => plain_map _ _ _ _ t)
  cases hr : item true L okA get len f p d with
  | err e r => rw [hr] at hi; exact hi
  | ok k q =>
    rw [hr] at hi
    obtain ⟨h1, h2, h3⟩ := hi
    have hd1 : deliver k (.map (2 * (m + 1)) acc.reverse none :: s) = .cont (.map (2 * m + 1) acc.reverse (some k) :: s) := by
      simp [deliver]; omega
    simp only [hd1] at h3
    refine Sim.cont h1 h3 ?_
    have hv := hI q d (.map (2 * m + 1) acc.reverse (some k) :: s) (by simp [hd]) (by omega) (fun t _ _ => plain_map _ _ _ _ t)
    simp only
    cases hr2 : item true L okA get len f q d with
    | err e r => rw [hr2] at hv; exact hv
    | ok v r =>
      rw [hr2] at hv
      obtain ⟨v1, v2, v3⟩ := hv
      simp only
      by_cases hm : m = 0
      · subst hm
        obtain ⟨f', rfl⟩ : ∃ k, f = k + 1 := ⟨f - 1, by omega⟩
        rw [pairs]
        exact ⟨v1, v2, by simpa [deliver] using v3⟩
      · have hd2 : deliver v (.map (2 * m + 1) acc.reverse (some k) :: s) = .cont (.map (2 * m) (acc.reverse ++ [(k, v)]) none :: s) := by
          simp [deliver]; omega
        simp only [hd2] at v3
        exact Sim.cont v1 v3 (by simpa using hP m r d s ((k, v) :: acc) hd (by omega) (by omega))

theorem pairsI_step (hbrk : okA .brk = true) (f : Nat) (hI : ItemOK L okA get len f) (hPI : PairsIOK L okA get len f) :
    PairsIOK L okA get len (f + 1) := by
  intro p d s acc hd hf
  by_cases hb : ∃ l, headAt get len p = .ok .brk l
  · obtain ⟨l, hh⟩ := hb
    simp only [pairsI, hh]
    exact Sim.step hh (by rw [stepTok, hbrk]; rfl)
  · rw [pairsI_succ (fun l h => hb ⟨l, h⟩)]
    have hi := hI p d (.mapI acc.reverse none :: s) (by simp [hd]) (by omega)
      (fun tok l h => plain_key (fun e => hb ⟨l, e ▸ h⟩) _ _)
    cases hr : item true L okA get len f p d with
    | err e r => rw [hr] at hi; exact hi
    | ok k q =>
      rw [hr] at hi
      obtain ⟨h1, h2, h3⟩ := hi
      refine Sim.cont h1 h3 ?_
      have hv := hI q d (.mapI acc.reverse (some k) :: s) (by simp [hd]) (by omega) (fun t _ _ => plain_value _ _ _ t)
      simp only
      cases hr2 : item true L okA get len f q d with
      | err e r => rw [hr2] at hv; exact hv
      | ok v r =>
        rw [hr2] at hv
        obtain ⟨v1, v2, v3⟩ := hv
        exact Sim.cont v1 v3 (by simpa using hPI r d s ((k, v) :: acc) hd (by omega))

/-- inside a chunked string every head but a break or a chunk is a syntax error, reported (lazily) where the item it
opens ends; the verdict is never `ok`, so it does not matter what the string would be delivered as -/
theorem illegal_in_string {α : Type} {k : α → Out} (f : Nat) (hI : ItemOK L okA get len f) {mt p d l : Nat} {s : List Frame}
    {cs : List (List UInt8)} {tok : Tok} (hmt : mt = 2 ∨ mt = 3) (hd : List.length s + 1 = d) (hf : f + 1 ≥ 2 * (len - p) + 3)
    (hh : headAt get len p = .ok tok l) (hok : okA tok = true) (hnb : tok ≠ .brk)
    (hnc : ∀ o n, tok ≠ .bytes o n ∧ tok ≠ .text o n) :
    Sim L okA get len (strFrame mt cs :: s) p k
      (if (true && tok.opens) = true then
        (match item true L okA get len f p d with
         | .ok _ r => (Res.err .syntax r : Res α)
         | .err e r => Res.err e r)
       else Res.err .syntax (p + l)) := by
  by_cases hop : tok.opens = true
  · simp only [hop, Bool.and_self, if_true]
    have hi := hI p d (strFrame mt cs :: s) (by simp [hd]) (by omega) (by
      intro tok' l' h'
      rw [hh] at h'; cases h'
      exact plain_in_string hmt cs s hop)
    cases hr : item true L okA get len f p d with
    | err e r => rw [hr] at hi; exact hi
    | ok x r =>
      rw [hr] at hi
      refine runsTo_syn ?_
      have : deliver x (strFrame mt cs :: s) = .syn := by rcases hmt with rfl | rfl <;> simp [strFrame, deliver]
      exact this ▸ hi.2.2
  · have hop' : tok.opens = false := by simpa using hop
    simp only [hop', Bool.and_false, Bool.false_eq_true, if_false]
    exact Sim.syn hh (step_in_string hmt cs s p hok hop' hnb hnc)

theorem chunks_step (f : Nat) (hI : ItemOK L okA get len f) (hC : ChunksOK L okA get len f) :
    ChunksOK L okA get len (f + 1) := by
  intro mt p d s acc hmt hd hf
  cases hh : headAt get len p with
  | nedata n => simp only [chunks, hh]; exact Sim.nedata hh
  | error => simp only [chunks, hh]; exact Sim.error hh
  | ok tok l =>
    have hl := headAt_ok hh
    cases hok : okA tok with
    | false =>
      simp only [chunks, hh, hok, Bool.not_false, if_true]
      exact Sim.mem hh (by simp [stepTok, hok])
    | true =>
      rw [chunks_succ_head hh hok]
      cases tok <;> simp only []
      case brk =>
        exact Sim.step hh (by rcases hmt with rfl | rfl <;> simp [stepTok, hok, strFrame, strItem])
      case bytes o n =>
        exact Sim.chunk hh (s' := strFrame mt ((slice get (p + o) n :: acc).reverse) :: s)
          (by rcases hmt with rfl | rfl <;> simp [stepTok, hok, strFrame, deliver])
          (fun _ => hC mt (p + l) d s (slice get (p + o) n :: acc) hmt hd (by omega))
      case text o n =>
        exact Sim.chunk hh (s' := strFrame mt ((slice get (p + o) n :: acc).reverse) :: s)
          (by rcases hmt with rfl | rfl <;> simp [stepTok, hok, strFrame, deliver])
          (fun _ => hC mt (p + l) d s (slice get (p + o) n :: acc) hmt hd (by omega))
      all_goals exact illegal_in_string f hI hmt hd hf hh hok (by simp) (by simp)

theorem all_ok (hbrk : okA .brk = true) : ∀ f,
    ItemOK L okA get len f ∧ ElemsOK L okA get len f ∧ ElemsIOK L okA get len f ∧
    PairsOK L okA get len f ∧ PairsIOK L okA get len f ∧ ChunksOK L okA get len f := by
  intro f
  induction f with
  | zero =>
    refine ⟨?_, ?_, ?_, ?_, ?_, ?_⟩
    · intro p d s _ hf; omega
    · intro n p d s acc _ hf; omega
    · intro p d s acc _ hf; omega
    · intro n p d s acc _ hf; omega
    · intro p d s acc _ hf; omega
    · intro mt p d s acc _ _ hf; omega
  | succ f ih =>
    obtain ⟨hI, hE, hEI, hP, hPI, hC⟩ := ih
    exact ⟨item_step f hI hE hEI hP hPI hC, elems_step f hI hE, elemsI_step hbrk f hI hEI,
           pairs_step f hI hP, pairsI_step hbrk f hI hPI, chunks_step f hI hC⟩

/-- **The fundamental theorem.**  The stack machine and the (lazy) reference decoder give the same outcome
on every buffer: the same item and end offset, or the same error at the same offset.  `hbrk`: `Spec.elemsI` / `pairsI`
recognise the break before they ask `okA`, the machine's `stepTok` asks `okA` first; they agree when `okA` grants the break. -/
theorem abs_decode_eq (hbrk : okA .brk = true) :
    Abs.decode L okA get len = Spec.decode true L okA get len := by
  unfold Abs.decode Spec.decode
  by_cases h0 : len = 0
  · simp [h0]
  · simp only [h0, if_false]
    have h := (all_ok (L := L) (get := get) (len := len) hbrk (2 * len + 3)).1 0 0 [] rfl (by omega)
      (by intro t l _; cases t <;> simp [Plain])
    cases hr : item true L okA get len (2 * len + 3) 0 0 with
    | ok x q =>
      rw [hr] at h
      obtain ⟨_, _, h3⟩ := h
      have := h3 (len + 1) (len - q + 1) (by omega) (by omega)
      simp only [deliver, resume] at this
      rw [this]
    | err e r =>
      rw [hr] at h
      rw [h (len + 1) (by omega)]

end Lemmas.Fund
