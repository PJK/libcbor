import Cbor.Lemmas.BuilderShapes
/-!
# The fault flag of the value-level builder is sticky

No step of `Model.load` clears the flag: a load that ends with it clear had it clear after every head.  This is how
`HB.hload_refines`, which assumes only the final flag, gets the per-step hypothesis its simulation needs.
-/
namespace Lemmas.Sticky
open Model

theorem allocMultiple_fault' {c c' : Ctx} {ω : Oracle} {a b : Nat} {ok : Bool} (h : c.allocMultiple ω a b = (ok, c')) : c'.fault = c.fault := by
  unfold Ctx.allocMultiple at h
  split at h <;> cases h <;> rfl

theorem growAlloc_fault' {c c' : Ctx} {ω : Oracle} {a b : Nat} {ok : Bool} (h : c.growAlloc ω a b = (ok, c')) : c'.fault = c.fault := by
  unfold Ctx.growAlloc at h
  split at h
  · exact allocMultiple_fault' h
  · cases h; rfl

theorem fault_ite {b : Prop} [Decidable b] {x y : Ctx} (hx : x.fault = true) (hy : y.fault = true) : (if b then x else y).fault = true := by
  split <;> assumption

theorem grown_sticky {c : Ctx} (ω : Oracle) (elt al : Nat) (f : Frame) (rest : List Frame) (hc : c.fault = true) :
    (c.grown ω elt al f rest).fault = true := by
  obtain ⟨k, e | e⟩ := c.grown_cases ω elt al f rest <;> rw [e] <;> exact hc

theorem append_sticky (ω : Oracle) : ∀ (fuel : Nat) (t : Spec.Item) (c : Ctx), c.fault = true → (append ω fuel t c).fault = true
  | 0, _, _, _ => rfl
  | fuel+1, t, c, hc => by
    cases hs : c.stack with
    | nil => rw [append_nil ω fuel t hs]; exact hc
    | cons top rest =>
      rw [append_cons ω fuel t hs]
      cases top.take t with
      | bad => rfl
      | syn | full | put => exact hc
      | grow elt al f => exact grown_sticky ω elt al f rest hc
      | done it => exact append_sticky ω fuel _ _ hc

theorem pushFrame_sticky (ω : Oracle) (L : Nat) (c : Ctx) (it : PItem) (sub : UInt64) (hc : c.fault = true) :
    (pushFrame ω L c it sub).fault = true := by
  rw [pushFrame_eq]; exact fault_ite hc (fault_ite hc hc)

theorem stringCb_sticky (ω : Oracle) (c : Ctx) (isText : Bool) (data : List UInt8) (hc : c.fault = true) :
    (stringCb ω c isText data).fault = true := by
  rw [stringCb_eq]
  refine fault_ite (fault_ite ?_ hc) hc
  rcases stringTail_cases ω (c.asked 2) isText data with ⟨cap, cs, sub, rest, _, e⟩ | e <;> rw [e]
  · exact fault_ite (grown_sticky ω _ _ _ _ hc) hc
  · exact append_sticky ω _ _ _ hc

theorem breakCb_sticky (ω : Oracle) (c : Ctx) (hc : c.fault = true) : (breakCb ω c).fault = true := by
  unfold breakCb
  split
  · exact fault_ite (append_sticky ω _ _ _ hc) hc
  · exact hc

theorem callback_sticky (ω : Oracle) (L : Nat) (src : Array UInt8) (c : Ctx) (e : Gen.Event) (hc : c.fault = true) :
    (callback ω L src c e).fault = true := by
  have push := fun k it sub => pushFrame_sticky ω L (c.asked k) it sub hc
  have app := fun k it => append_sticky ω (fuelOf c) it (c.asked k) hc
  cases e <;> simp only [callback]
  case byte_string | string => exact fault_ite (stringCb_sticky ω c _ _ hc) rfl
  case byte_string_start | string_start => rw [indefString_eq]; exact fault_ite (fault_ite (push _ _ _) hc) hc
  case array_start => rw [arrayStart_eq, defStart_eq]; exact fault_ite (fault_ite (fault_ite (fault_ite (push _ _ _) (app _ _)) hc) hc) hc
  case map_start => rw [mapStart_eq, defStart_eq]; exact fault_ite (fault_ite (fault_ite (fault_ite (push _ _ _) (app _ _)) hc) hc) hc
  case indef_array_start | indef_map_start => rw [indefContainer_eq, startPush_eq]; exact fault_ite (push _ _ _) hc
  case tag => rw [tagCb_eq, startPush_eq]; exact fault_ite (push _ _ _) hc
  case indef_break => exact breakCb_sticky ω c hc
  all_goals rw [scalar_eq]; exact fault_ite (app _ _) hc

theorem loadLoop_sticky (ω : Oracle) (L : Nat) (src : Array UInt8) : ∀ (fuel : Nat) (c : Ctx) (read : Nat), c.fault = true →
    (loadLoop ω L src fuel c read).fault = true
  | 0, _, _, _ => rfl
  | fuel+1, c, read, hc => by
    unfold loadLoop
    have hfold : ∀ (es : List Gen.Event) (c : Ctx), c.fault = true → (es.foldl (callback ω L src) c).fault = true := by
      intro es
      induction es with
      | nil => intro c h; exact h
      | cons e es ih => intro c h; exact ih _ (callback_sticky ω L src c e h)
    have h1 := hfold (Gen.cbor_stream_decode src read (UInt64.ofNat (src.size - read))).2 c hc
    repeat' (first | split | (dsimp only; split))
    all_goals first
      | exact hc
      | exact h1
      | exact loadLoop_sticky ω L src fuel _ _ h1
      | simp [h1]

theorem loadLoop_fold_fault (ω : Oracle) (L : Nat) (src : Array UInt8) (fuel : Nat) (c : Ctx) (read : Nat) (hmore : src.size > read)
    (hf : (loadLoop ω L src (fuel + 1) c read).fault = false) :
    ((Gen.cbor_stream_decode src read (UInt64.ofNat (src.size - read))).2.foldl (callback ω L src) c).fault = false := by
  cases hx : ((Gen.cbor_stream_decode src read (UInt64.ofNat (src.size - read))).2.foldl (callback ω L src) c).fault with
  | false => rfl
  | true =>
    exfalso
    unfold loadLoop at hf
    rw [if_pos hmore] at hf
    have hl := loadLoop_sticky ω L src fuel _ (read + (Gen.cbor_stream_decode src read (UInt64.ofNat (src.size - read))).1.read.toNat) hx
    revert hf
    dsimp only
    repeat' split
    all_goals simp [hx, hl]

end Lemmas.Sticky
