import Cbor.Ext
import Cbor.Spec.Decode
/-!
The binary16 → binary32 conversion is exact, and `Spec.Float.singleToHalf` inverts it.

A pattern is `sign · 2^(mb+eb) + exponent · 2^mb + fraction`; `Spec.Float.value_fields` reads the value off the
three fields, `halfToSingle_fields` gives the three fields of the binary32 pattern for each class of binary16
pattern, and `Spec.Float.mk_mul_two_pow` says that a shift of the significand is made up for by the exponent.
-/
namespace Spec.Float

theorem tz_zero (f : Nat) : tz f 0 = 0 := by
  cases f <;> simp [tz]

theorem tz_two_mul (f m : Nat) (hm : m ≠ 0) : tz (f + 1) (2 * m) = tz f m + 1 := by
  have h1 : 2 * m % 2 = 0 ∧ 2 * m ≠ 0 := by omega
  have h2 : 2 * m / 2 = m := by omega
  rw [tz, if_pos h1, h2]

theorem tz_fuel (f g m : Nat) (hf : m < 2 ^ f) (hg : m < 2 ^ g) : tz f m = tz g m := by
  induction f generalizing g m with
  | zero =>
    have h0 : m = 0 := by omega
    rw [h0, tz_zero, tz_zero]
  | succ f ih =>
    cases g with
    | zero =>
      have h0 : m = 0 := by omega
      rw [h0, tz_zero, tz_zero]
    | succ g =>
      rw [Nat.pow_succ] at hf hg
      rw [tz, tz, ih g (m / 2) (by omega) (by omega)]

theorem tz_mul_two_pow (f m k : Nat) (hm : m ≠ 0) : tz (f + k) (m * 2 ^ k) = tz f m + k := by
  induction k with
  | zero => simp
  | succ k ih =>
    have hne : m * 2 ^ k ≠ 0 := Nat.mul_ne_zero hm (Nat.pos_iff_ne_zero.mp (Nat.pow_pos (by decide)))
    have h1 : m * 2 ^ (k + 1) = 2 * (m * 2 ^ k) := by rw [Nat.pow_succ]; ac_rfl
    rw [h1, ← Nat.add_assoc, tz_two_mul _ _ hne, ih, Nat.add_assoc]

theorem mk_mul_two_pow (neg : Bool) (m k : Nat) (e : Int) (h : m * 2 ^ k < 2 ^ 64) :
    mk neg (m * 2 ^ k) e = mk neg m (e + k) := by
  have hk : 0 < 2 ^ k := Nat.pow_pos (by decide)
  by_cases hm : m = 0
  · simp [mk, hm]
  · have hne : m * 2 ^ k ≠ 0 := Nat.mul_ne_zero hm (Nat.pos_iff_ne_zero.mp hk)
    have hle : 2 ^ 64 ≤ 2 ^ (64 + k) := Nat.pow_le_pow_right (by decide) (by omega)
    have ht : tz 64 (m * 2 ^ k) = tz 64 m + k := by
      rw [tz_fuel 64 (64 + k) _ h (by omega), tz_mul_two_pow _ _ _ hm]
    have hd : m * 2 ^ k / 2 ^ (tz 64 m + k) = m / 2 ^ tz 64 m := by
      rw [Nat.pow_add, Nat.mul_div_mul_right _ _ hk]
    simp only [mk, hm, hne, if_false, ht, hd]
    congr 1
    omega

theorem bits_fields (B E s ex frac : Nat) (hex : ex < E) (hf : frac < B) :
    ((s * E + ex) * B + frac) % B = frac ∧ ((s * E + ex) * B + frac) / B % E = ex ∧
    ((s * E + ex) * B + frac) / (B * E) = s := by
  have hB : 0 < B := by omega
  have hE : 0 < E := by omega
  have h1 : ((s * E + ex) * B + frac) / B = s * E + ex := by
    rw [Nat.mul_comm, Nat.mul_add_div hB, Nat.div_eq_of_lt hf, Nat.add_zero]
  refine ⟨?_, ?_, ?_⟩
  · rw [Nat.mul_comm, Nat.mul_add_mod, Nat.mod_eq_of_lt hf]
  · rw [h1, Nat.mul_comm, Nat.mul_add_mod, Nat.mod_eq_of_lt hex]
  · rw [← Nat.div_div_eq_div_mul, h1, Nat.mul_comm, Nat.mul_add_div hE, Nat.div_eq_of_lt hex, Nat.add_zero]

theorem value_fields (eb mb s ex frac : Nat) (hs : s < 2) (hex : ex < 2 ^ eb) (hf : frac < 2 ^ mb) :
    value eb mb ((s * 2 ^ eb + ex) * 2 ^ mb + frac) =
      if ex = 2 ^ eb - 1 then (if frac = 0 then .inf (s = 1) else .nan)
      else if ex = 0 then mk (s = 1) frac (1 - (2 ^ (eb - 1) - 1 + mb))
      else mk (s = 1) (2 ^ mb + frac) ((ex : Int) - (2 ^ (eb - 1) - 1 + mb)) := by
  obtain ⟨h1, h2, h3⟩ := bits_fields (2 ^ mb) (2 ^ eb) s ex frac hex hf
  have h4 : s % 2 = s := Nat.mod_eq_of_lt hs
  simp only [value, Nat.pow_add, h1, h2, h3, h4, Int.sub_sub]

theorem singleValue_fields (b s e f : Nat) (hs : s < 2) (he : e < 256) (hf : f < 2 ^ 23)
    (hb : b = s * 2 ^ 31 + e * 2 ^ 23 + f) :
    singleValue b =
      if e = 255 then (if f = 0 then .inf (s = 1) else .nan)
      else if e = 0 then mk (s = 1) f (-149) else mk (s = 1) (2 ^ 23 + f) ((e : Int) - 150) := by
  have hb' : b = (s * 2 ^ 8 + e) * 2 ^ 23 + f := by rw [hb]; omega
  rw [hb', singleValue, value_fields 8 23 s e f hs he hf]
  simp

theorem halfValue_fields (h s e f : Nat) (hs : s < 2) (he : e < 32) (hf : f < 2 ^ 10)
    (hh : h = s * 2 ^ 15 + e * 2 ^ 10 + f) :
    halfValue h =
      if e = 31 then (if f = 0 then .inf (s = 1) else .nan)
      else if e = 0 then mk (s = 1) f (-24) else mk (s = 1) (2 ^ 10 + f) ((e : Int) - 25) := by
  have hh' : h = (s * 2 ^ 5 + e) * 2 ^ 10 + f := by rw [hh]; omega
  rw [hh', halfValue, value_fields 5 10 s e f hs he hf]
  simp

theorem singleToHalf_fields (b s e f : Nat) (hs : s < 2) (he : e < 256) (hf : f < 2 ^ 23)
    (hb : b = s * 2 ^ 31 + e * 2 ^ 23 + f) :
    singleToHalf b =
      if e = 255 then (if f = 0 then s * 0x8000 + 0x7C00 else 0x7E00)
      else if e = 0 then s * 0x8000
      else if 113 ≤ e ∧ e ≤ 142 then s * 0x8000 + (e - 112) * 1024 + f / 2 ^ 13
      else if 103 ≤ e ∧ e < 113 then s * 0x8000 + (2 ^ 23 + f) / 2 ^ (126 - e)
      else s * 0x8000 := by
  have h1 : b / 2 ^ 31 % 2 = s := by omega
  have h2 : b / 2 ^ 23 % 256 = e := by omega
  have h3 : b % 2 ^ 23 = f := by omega
  simp only [singleToHalf, h1, h2, h3]

theorem canonHalf_fields (h s e f : Nat) (he : e < 32) (hf : f < 2 ^ 10)
    (hh : h = s * 2 ^ 15 + e * 2 ^ 10 + f) : canonHalf h = if e = 31 ∧ f ≠ 0 then 0x7E00 else h := by
  have h1 : h / 2 ^ 10 % 2 ^ 5 = e := by omega
  have h2 : h % 2 ^ 10 = f := by omega
  simp [canonHalf, isNaN, h1, h2]

end Spec.Float

namespace Lemmas
open Spec Spec.Float

theorem msb10_spec (m : Nat) (h0 : m ≠ 0) (hm : m < 1024) :
    Ext.msb10 m ≤ 9 ∧ 2 ^ Ext.msb10 m ≤ m ∧ m < 2 ^ (Ext.msb10 m + 1) := by
  suffices h : ∀ P : Nat → Prop, (∀ p, p ≤ 9 → 2 ^ p ≤ m → m < 2 ^ (p + 1) → P p) → P (Ext.msb10 m) from
    h (fun p => p ≤ 9 ∧ 2 ^ p ≤ m ∧ m < 2 ^ (p + 1)) fun p h1 h2 h3 => ⟨h1, h2, h3⟩
  intro P hP
  unfold Ext.msb10
  -- down the chain of thresholds (`split` is exponential in its length)
  repeat' refine iteInduction (fun _ => ?_) (fun _ => ?_)
  all_goals exact hP _ (by omega) (by omega) (by omega)

/-- a `q`-bit fraction field holding `m` without its leading bit `p`, shifted to the top: with the implicit
leading one put back this is `m` shifted -/
theorem frac_shift (p q m : Nat) (hp : p ≤ q) (h1 : 2 ^ p ≤ m) (h2 : m < 2 ^ (p + 1)) :
    (m - 2 ^ p) * 2 ^ (q - p) < 2 ^ q ∧ 2 ^ q + (m - 2 ^ p) * 2 ^ (q - p) = m * 2 ^ (q - p) := by
  have hq : 2 ^ p * 2 ^ (q - p) = 2 ^ q := by rw [← Nat.pow_add, Nat.add_sub_cancel' hp]
  have ht : 0 < 2 ^ (q - p) := Nat.pow_pos (by decide)
  have h3 : m - 2 ^ p < 2 ^ p := by rw [Nat.pow_succ] at h2; omega
  have h4 : (m - 2 ^ p) * 2 ^ (q - p) < 2 ^ p * 2 ^ (q - p) := Nat.mul_lt_mul_of_lt_of_le h3 (Nat.le_refl _) ht
  refine ⟨by omega, ?_⟩
  rw [← hq, ← Nat.add_mul]
  congr 1
  omega

theorem halfToSingle_mod (h : Nat) : halfToSingle (h % 65536) = halfToSingle h := by
  have e1 : h % 65536 / 1024 % 32 = h / 1024 % 32 := by omega
  have e2 : h % 65536 % 1024 = h % 1024 := by omega
  have e3 : h % 65536 % 65536 = h % 65536 := by omega
  rw [halfToSingle, e1, e2, e3]
  rfl

theorem half_fields (h : Nat) (hh : h < 65536) :
    ∃ s ex mant, s < 2 ∧ ex < 32 ∧ mant < 1024 ∧ h = s * 2 ^ 15 + ex * 2 ^ 10 + mant :=
  ⟨h / 32768, h / 1024 % 32, h % 1024, by omega, by omega, by omega, by omega⟩

/-- the classes: zero, subnormal with leading bit `p`, normal, infinity, NaN -/
theorem halfToSingle_fields (s ex mant : Nat) (hs : s < 2) (hex : ex < 32) (hm : mant < 1024) :
    ∃ e f, e < 256 ∧ f < 2 ^ 23 ∧
      halfToSingle (s * 2 ^ 15 + ex * 2 ^ 10 + mant) = s * 2 ^ 31 + e * 2 ^ 23 + f ∧
      (ex = 0 ∧ mant = 0 ∧ e = 0 ∧ f = 0
      ∨ ex = 0 ∧ mant ≠ 0 ∧ (∃ p, p ≤ 9 ∧ e = p + 103 ∧ 2 ^ 23 + f = mant * 2 ^ (23 - p))
      ∨ ex ≠ 0 ∧ ex ≠ 31 ∧ e = ex + 112 ∧ 2 ^ 23 + f = (2 ^ 10 + mant) * 2 ^ 13
      ∨ ex = 31 ∧ mant = 0 ∧ e = 255 ∧ f = 0
      ∨ ex = 31 ∧ mant ≠ 0 ∧ e = 255 ∧ f = 2 ^ 22) := by
  have e1 : (s * 2 ^ 15 + ex * 2 ^ 10 + mant) / 1024 % 32 = ex := by omega
  have e2 : (s * 2 ^ 15 + ex * 2 ^ 10 + mant) % 1024 = mant := by omega
  have e3 : (if (s * 2 ^ 15 + ex * 2 ^ 10 + mant) % 65536 ≥ 32768 then 0x80000000 else 0) = s * 2 ^ 31 := by
    split <;> omega
  have key : halfToSingle (s * 2 ^ 15 + ex * 2 ^ 10 + mant) = s * 2 ^ 31 +
      if ex = 0 then
        if mant = 0 then 0
        else (Ext.msb10 mant + 103) * 2 ^ 23 + (mant - 2 ^ Ext.msb10 mant) * 2 ^ (23 - Ext.msb10 mant)
      else if ex ≠ 31 then (ex + 112) * 2 ^ 23 + mant * 2 ^ 13
      else if mant = 0 then 255 * 2 ^ 23 else 255 * 2 ^ 23 + 2 ^ 22 := by
    rw [halfToSingle, e1, e2, e3]
    rfl
  rw [key]
  by_cases h0 : ex = 0
  · rw [if_pos h0]
    by_cases hz : mant = 0
    · rw [if_pos hz]
      exact ⟨0, 0, by omega, by omega, by omega, Or.inl ⟨h0, hz, rfl, rfl⟩⟩
    · rw [if_neg hz]
      obtain ⟨hp, h1, h2⟩ := msb10_spec mant hz hm
      obtain ⟨hg, hsum⟩ := frac_shift (Ext.msb10 mant) 23 mant (by omega) h1 h2
      exact ⟨_, _, by omega, hg, by omega, Or.inr (Or.inl ⟨h0, hz, _, hp, rfl, hsum⟩)⟩
  · rw [if_neg h0]
    by_cases h31 : ex = 31
    · rw [if_neg (not_not_intro h31)]
      by_cases hz : mant = 0
      · rw [if_pos hz]
        exact ⟨255, 0, by omega, by omega, by omega, Or.inr (Or.inr (Or.inr (Or.inl ⟨h31, hz, rfl, rfl⟩)))⟩
      · rw [if_neg hz]
        exact ⟨255, 2 ^ 22, by omega, by omega, by omega, Or.inr (Or.inr (Or.inr (Or.inr ⟨h31, hz, rfl, rfl⟩)))⟩
    · rw [if_pos h31]
      exact ⟨ex + 112, mant * 2 ^ 13, by omega, by omega, by omega,
        Or.inr (Or.inr (Or.inl ⟨h0, h31, rfl, by omega⟩))⟩

theorem halfToSingle_lt (h : Nat) : halfToSingle h < 2 ^ 32 := by
  obtain ⟨s, ex, mant, hs, hex, hm, hd⟩ := half_fields (h % 65536) (by omega)
  obtain ⟨e, f, he, hf, hb, _⟩ := halfToSingle_fields s ex mant hs hex hm
  rw [← halfToSingle_mod, hd, hb]
  omega

/-- the hand-written bit-level model of `_cbor_decode_half` is the Spec's binary16 → binary32 conversion
(the two spell the same arithmetic; what is to be shown is that it stays below 2^32) -/
theorem decodeHalf_spec (h : Nat) : (Ext.decodeHalfBits h).toNat = Spec.halfToSingle h := by
  have hd : Ext.decodeHalfBits h = UInt32.ofNat (halfToSingle h) := by
    rw [Ext.decodeHalfBits, halfToSingle]
    simp only [beq_iff_eq, bne_iff_ne]
    rfl
  rw [hd, UInt32.toNat_ofNat', Nat.mod_eq_of_lt (halfToSingle_lt h)]

/-- the Spec's binary32 → binary16 conversion inverts it (canonical NaN) -/
theorem singleToHalf_halfToSingle (h : Nat) (hh : h < 65536) :
    Spec.Float.singleToHalf (Spec.halfToSingle h) = Spec.Float.canonHalf h := by
  obtain ⟨s, ex, mant, hs, hex, hm, rfl⟩ := half_fields h hh
  obtain ⟨e, f, he, hf, hb, hc⟩ := halfToSingle_fields s ex mant hs hex hm
  rw [singleToHalf_fields _ s e f hs he hf hb, canonHalf_fields _ s ex mant hex hm rfl]
  rcases hc with ⟨rfl, rfl, rfl, rfl⟩ | ⟨rfl, hz, p, hp, rfl, hsum⟩ | ⟨h0, h31, rfl, hsum⟩ | ⟨rfl, rfl, rfl, rfl⟩ |
    ⟨rfl, hz, rfl, rfl⟩
  · simp
  · have hq : 126 - (p + 103) = 23 - p := by omega
    rw [if_neg (by omega), if_neg (by omega), if_neg (by omega), if_pos (by omega), if_neg (by omega), hsum, hq,
      Nat.mul_div_cancel _ (Nat.pow_pos (by decide))]
    omega
  · rw [if_neg (by omega), if_neg (by omega), if_pos (by omega), if_neg (by omega)]
    omega
  · simp
  · simp [hz]

theorem singleToHalf_decode (h : Nat) (hh : h < 65536) :
    Spec.Float.singleToHalf (Ext.decodeHalfBits h).toNat = Spec.Float.canonHalf h := by
  rw [decodeHalf_spec, singleToHalf_halfToSingle h hh]

/-- the conversion is exact -/
theorem singleValue_halfToSingle (h : Nat) (hh : h < 65536) :
    Spec.Float.singleValue (Spec.halfToSingle h) = Spec.Float.halfValue h := by
  obtain ⟨s, ex, mant, hs, hex, hm, rfl⟩ := half_fields h hh
  obtain ⟨e, f, he, hf, hb, hc⟩ := halfToSingle_fields s ex mant hs hex hm
  rw [singleValue_fields _ s e f hs he hf hb, halfValue_fields _ s ex mant hs hex hm rfl]
  rcases hc with ⟨rfl, rfl, rfl, rfl⟩ | ⟨rfl, hz, p, hp, rfl, hsum⟩ | ⟨h0, h31, rfl, hsum⟩ | ⟨rfl, rfl, rfl, rfl⟩ |
    ⟨rfl, hz, rfl, rfl⟩
  · simp [mk]
  · -- significand `mant · 2^(23-p)` at exponent `p + 103 - 150`, against `mant` at `-24`
    have hlt : mant * 2 ^ (23 - p) < 2 ^ 64 := by rw [← hsum]; omega
    rw [if_neg (by omega), if_neg (by omega), if_neg (by omega), if_pos rfl, hsum, mk_mul_two_pow _ _ _ _ hlt]
    congr 1
    omega
  · -- significand `(2^10 + mant) · 2^13` at exponent `ex + 112 - 150`, against `2^10 + mant` at `ex - 25`
    have hlt : (2 ^ 10 + mant) * 2 ^ 13 < 2 ^ 64 := by rw [← hsum]; omega
    rw [if_neg (by omega), if_neg (by omega), if_neg h31, if_neg h0, hsum, mk_mul_two_pow _ _ _ _ hlt]
    congr 1
    omega
  · simp
  · simp [hz]

end Lemmas
