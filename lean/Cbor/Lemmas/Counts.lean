import Cbor.Lemmas.Heap
/-!
# Reference counts equal references (the invariant behind C04)

`Counts h own`: every live item's reference count is the number of references live containers hold to it
plus the number the client owns (`own`); nothing refers to, and the client owns nothing of, a released item.
-/
namespace Heap

def cellRefs : Option Cell → List Ref
  | some c => c.node.children
  | none => []

def H.refs (h : H) : List Ref := h.cells.flatMap cellRefs

def Counts (h : H) (own : Ref → Nat) : Prop :=
  ∀ r, match h.get r with
    | some c => c.rc = h.refs.count r + own r
    | none => h.refs.count r = 0 ∧ own r = 0

/-- the client (or a pending release) owns `k` more references to `x` -/
def bump (own : Ref → Nat) (x : Ref) (k : Nat) : Ref → Nat := fun r => own r + if r = x then k else 0
def bumpL (own : Ref → Nat) (xs : List Ref) : Ref → Nat := fun r => own r + xs.count r

theorem bumpL_nil (own : Ref → Nat) : bumpL own [] = own := by funext r; simp [bumpL]
theorem bumpL_cons (own : Ref → Nat) (x : Ref) (xs : List Ref) : bumpL own (x :: xs) = bump (bumpL own xs) x 1 := by
  funext r; simp only [bumpL, bump, List.count_cons, beq_iff_eq]
  by_cases e : x = r
  · subst e; simp; omega
  · simp [e, Ne.symm e]
theorem bumpL_single (own : Ref → Nat) (x : Ref) : bumpL own [x] = bump own x 1 := by
  rw [bumpL_cons, bumpL_nil]
theorem bumpL_bump (own : Ref → Nat) (r : Ref) (rs : List Ref) : bumpL (bump own r 1) rs = bumpL own (r :: rs) := by
  rw [bumpL_cons]; funext x; simp only [bumpL, bump]; omega
theorem bumpL_append (own : Ref → Nat) (a b : List Ref) : bumpL (bumpL own a) b = bumpL own (a ++ b) := by
  funext x; simp only [bumpL, List.count_append]; omega
theorem bump_comm (own : Ref → Nat) (a b : Ref) (i j : Nat) : bump (bump own a i) b j = bump (bump own b j) a i := by
  funext r; simp only [bump]; omega

def cellRc : Option Cell → Nat
  | some c => c.rc
  | none => 0

/-- the count of `r`, zero for a released item -/
def H.rc (h : H) (r : Ref) : Nat := cellRc (h.get r)

theorem rc_get {h : H} {r : Ref} {c : Cell} (hg : h.get r = some c) : h.rc r = c.rc := by rw [H.rc, hg]; rfl

theorem counts_iff {h : H} {own : Ref → Nat} : Counts h own ↔ ∀ r, h.rc r = h.refs.count r + own r :=
  forall_congr' fun r => by
    unfold H.rc
    cases h.get r <;> simp only [cellRc] <;> omega

theorem rc_put (h : H) (a : Ref) (v : Option Cell) (r : Ref) (ha : a < h.cells.length) :
    (h.put a v).rc r = if r = a then cellRc v else h.rc r := by
  unfold H.rc
  split
  · rename_i e; subst e; rw [get_put_same _ _ _ ha]
  · rename_i e; rw [get_put_other _ _ _ _ e]

theorem count_flatMap_set (l : List (Option Cell)) (a : Nat) (v : Option Cell) (r : Ref) (ha : a < l.length) :
    ((l.set a v).flatMap cellRefs).count r + (cellRefs l[a]).count r = (l.flatMap cellRefs).count r + (cellRefs v).count r := by
  induction l generalizing a with
  | nil => simp at ha
  | cons x xs ih =>
    cases a with
    | zero => simp [List.count_append]; omega
    | succ a =>
      simp only [List.set_cons_succ, List.flatMap_cons, List.count_append, List.getElem_cons_succ]
      have := ih a (by simpa using ha)
      omega

theorem refs_put (h : H) (a : Ref) (v : Option Cell) (r : Ref) (ha : a < h.cells.length) :
    (h.put a v).refs.count r + (cellRefs (h.get a)).count r = h.refs.count r + (cellRefs v).count r := by
  have : h.get a = h.cells[a] := by simp [H.get, ha]
  rw [this]
  exact count_flatMap_set h.cells a v r ha

theorem rc_snoc {h h' : H} {c : Cell} (e : h'.cells = h.cells ++ [some c]) (r : Ref) :
    h'.rc r = if r = h.cells.length then c.rc else h.rc r := by
  unfold H.rc
  split
  · rename_i er; subst er; rw [get_snoc_same e]; rfl
  · rename_i er; rw [get_snoc_other e r er]

theorem refs_snoc {h h' : H} {c : Cell} (e : h'.cells = h.cells ++ [some c]) : h'.refs = h.refs ++ c.node.children := by
  simp [H.refs, e, cellRefs]

theorem rc_incref {h : H} {x : Ref} {c : Cell} (hg : h.get x = some c) (r : Ref) :
    (h.incref x).rc r = h.rc r + if r = x then 1 else 0 := by
  simp only [H.incref, hg, rc_put _ _ _ _ (get_lt hg)]
  split
  · rename_i e; subst e; rw [rc_get hg]; rfl
  · rfl

theorem refs_incref {h : H} {x : Ref} {c : Cell} (hg : h.get x = some c) (r : Ref) : (h.incref x).refs.count r = h.refs.count r := by
  have := refs_put h x (some { c with rc := c.rc + 1 }) r (get_lt hg)
  simp only [hg, cellRefs] at this
  simp only [H.incref, hg]; omega

theorem count_children_le (h : H) (a : Ref) (c : Cell) (hg : h.get a = some c) (r : Ref) :
    c.node.children.count r ≤ h.refs.count r := by
  have := refs_put h a none r (get_lt hg)
  simp only [hg, cellRefs, List.count_nil] at this
  omega

theorem counts_closed {h : H} {own : Ref → Nat} (hc : Counts h own) {p x : Ref} {c : Cell} (hg : h.get p = some c)
    (hx : x ∈ c.node.children) : ∃ cx, h.get x = some cx := by
  have := hc x
  have h1 := count_children_le h p c hg x
  have h2 : 0 < c.node.children.count x := List.count_pos_iff.mpr hx
  cases hgx : h.get x with
  | none => rw [hgx] at this; omega
  | some cx => exact ⟨cx, rfl⟩

theorem closed_of_counts {h : H} {own : Ref → Nat} (hc : Counts h own) : Closed h.cells.length h :=
  fun _ _ _ hgp _ hx =>
    have ⟨_, hgx⟩ := counts_closed hc hgp hx
    get_lt hgx

theorem counts_congr {h h' : H} {own : Ref → Nat} (hc : Counts h own) (e : h'.cells = h.cells) : Counts h' own := by
  intro r
  have := hc r
  rw [get_congr e, show h'.refs = h.refs by simp [H.refs, e]]; exact this

/-- a new item takes over the references `rs` its maker owned (its children), and its maker owns the one reference to it -/
theorem counts_snoc {h h' : H} {own : Ref → Nat} {n : Node} (e : h'.cells = h.cells ++ [some ⟨n, 1⟩]) (rs : List Ref)
    (hn : ∀ r, n.children.count r = rs.count r) (hc : Counts h (bumpL own rs)) : Counts h' (bump own h.cells.length 1) := by
  rw [counts_iff] at hc ⊢
  intro r
  have h0 : h.rc h.cells.length = 0 := by simp [H.rc, get_none_of_ge h _ (Nat.le_refl _), cellRc]
  have := hc r
  rw [rc_snoc e, refs_snoc e]
  simp only [bump, bumpL, List.count_append, hn] at this ⊢
  split
  · rename_i er; subst er; omega
  · omega

theorem counts_incref {h : H} {own : Ref → Nat} {x : Ref} {c : Cell} (hg : h.get x = some c) (hc : Counts h own) :
    Counts (h.incref x) (bump own x 1) := by
  rw [counts_iff] at hc ⊢
  intro r
  rw [rc_incref hg, refs_incref hg, hc r]
  simp only [bump]; omega

/-- the last reference goes: the references the item held are now owed by whoever releases it -/
theorem counts_free {h : H} {own : Ref → Nat} {r : Ref} {c : Cell} (hc : Counts h (bump own r 1)) (hg : h.get r = some c)
    (h1 : c.rc = 1) : Counts (h.put r none) (bumpL own c.node.children) := by
  rw [counts_iff] at hc ⊢
  intro x
  have hx := hc x
  have hp := refs_put h r none x (get_lt hg)
  rw [rc_put _ _ _ _ (get_lt hg)]
  simp only [hg, cellRefs, cellRc, bump, bumpL, List.count_nil] at hx hp ⊢
  split
  · rename_i e; subst e
    simp only [rc_get hg, if_true] at hx; omega
  · rename_i e; simp only [e, if_false] at hx; omega

/-- one of several references goes (`cbor_decref` above one, `cbor_move`) -/
theorem counts_dec {h : H} {own : Ref → Nat} {r : Ref} {c : Cell} (hc : Counts h (bump own r 1)) (hg : h.get r = some c) :
    Counts (h.put r (some { c with rc := c.rc - 1 })) own := by
  rw [counts_iff] at hc ⊢
  intro x
  have hx := hc x
  have hp := refs_put h r (some { c with rc := c.rc - 1 }) x (get_lt hg)
  rw [rc_put _ _ _ _ (get_lt hg)]
  simp only [hg, cellRefs, cellRc, bump] at hx hp ⊢
  split
  · rename_i e; subst e
    simp only [rc_get hg, if_true] at hx; omega
  · rename_i e; simp only [e, if_false] at hx; omega

theorem liveCells_eq (h : H) : h.liveCells = h.cells.countP Option.isSome := by
  rw [H.liveCells, List.countP_eq_length_filter]

theorem liveCells_le_of_shrinks {h h' : H} (hs : Shrinks h h') : h'.liveCells ≤ h.liveCells := by
  obtain ⟨hl, _, hp⟩ := hs
  have key : ∀ (l l' : List (Option Cell)), l'.length = l.length →
      (∀ i : Nat, (l'[i]?).join.isSome → (l[i]?).join.isSome) → l'.countP Option.isSome ≤ l.countP Option.isSome := by
    intro l
    induction l with
    | nil => intro l' hl' _; cases l' with | nil => simp | cons _ _ => simp at hl'
    | cons x xs ih =>
      intro l' hl' hi
      cases l' with
      | nil => simp at hl'
      | cons y ys =>
        have h0 := hi 0
        have ht := ih ys (by simpa using hl') (fun i hh => by simpa using hi (i + 1) (by simpa using hh))
        simp only [List.getElem?_cons_zero, Option.join_some] at h0
        simp only [List.countP_cons]
        cases y with
        | none => simp; omega
        | some v => rw [h0 rfl]; simp; omega
  rw [liveCells_eq, liveCells_eq]
  apply key h.cells h'.cells hl
  intro i hi
  cases hh : h'.get i with
  | none => simp [H.get] at hh; rw [hh] at hi; simp at hi
  | some c' =>
    obtain ⟨c, hg, _⟩ := hp i c' hh
    simp [H.get] at hg; rw [hg]; rfl

theorem liveCells_put_none (h : H) (r : Ref) (c : Cell) (hg : h.get r = some c) : (h.put r none).liveCells + 1 = h.liveCells := by
  have hl := get_lt hg
  have he : h.cells[r] = some c := by simpa [H.get, hl] using hg
  have hpos : 0 < h.cells.countP Option.isSome := List.countP_pos_iff.mpr ⟨_, List.getElem_mem hl, by rw [he]; rfl⟩
  rw [liveCells_eq, liveCells_eq, H.put, List.countP_set hl, he]
  simp; omega

mutual
/-- C04, releasing a reference keeps the books: if the counts are right when one more reference to `r` is
owned, they are right after `decref`, with that reference gone; no rule is broken. -/
theorem decref_counts : ∀ (f : Nat) (h : H) (r : Ref) (own : Ref → Nat), Counts h (bump own r 1) → h.liveCells ≤ f →
    Counts (decref f h r) own ∧ (decref f h r).fault = h.fault
  | 0, h, r, own, hc, hf => by
    exfalso
    have := hc r
    cases hg : h.get r with
    | none => rw [hg] at this; simp [bump] at this
    | some c => have := liveCells_put_none h r c hg; omega
  | f+1, h, r, own, hc, hf => by
    have hr := hc r
    unfold decref
    cases hg : h.get r with
    | none => rw [hg] at hr; simp [bump] at hr
    | some c =>
      rw [hg] at hr
      simp only [bump, if_true] at hr
      have h0 : ¬ c.rc = 0 := by omega
      simp only [h0, if_false]
      split
      · -- after the cell is released, its children are references owned by the cascade
        rename_i h1
        have hlive := liveCells_put_none h r c hg
        exact decrefs_counts f c.node.children (h.put r none) own (counts_free hc hg h1) (by omega)
      · exact ⟨counts_dec hc hg, rfl⟩
theorem decrefs_counts : ∀ (f : Nat) (xs : List Ref) (h : H) (own : Ref → Nat), Counts h (bumpL own xs) → h.liveCells ≤ f →
    Counts (xs.foldl (decref f) h) own ∧ (xs.foldl (decref f) h).fault = h.fault
  | _, [], h, own, hc, _ => by rw [bumpL_nil] at hc; exact ⟨hc, rfl⟩
  | f, x :: xs, h, own, hc, hf => by
    rw [bumpL_cons] at hc
    have h1 := decref_counts f h x (bumpL own xs) hc hf
    have hl := liveCells_le_of_shrinks (decref_shrinks f h x)
    have h2 := decrefs_counts f xs (decref f h x) own h1.1 (by omega)
    simp only [List.foldl_cons]
    exact ⟨h2.1, h2.2.trans h1.2⟩
end

theorem H.decref_counts (h : H) (r : Ref) (own : Ref → Nat) (hc : Counts h (bump own r 1)) :
    Counts (h.decref r) own ∧ (h.decref r).fault = h.fault :=
  Heap.decref_counts h.fuel h r own hc (by
    have := List.length_filter_le Option.isSome h.cells
    simp only [H.liveCells, H.fuel]; omega)

end Heap
