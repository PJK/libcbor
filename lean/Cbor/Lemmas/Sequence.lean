import Cbor.Props.C02
import Cbor.Props.C03
import Cbor.Props.C14
/-!
# CBOR sequences (RFC 8742): the client loop that repeatedly decodes at an offset advanced by bytes-read

`loadAll` is the loop a client of `cbor_load` writes to read a CBOR sequence: decode one item, advance by
`result.read`, repeat until the buffer is exhausted or a load fails.  The theorems show that it splits any
concatenation of `n` acceptable item encodings into exactly those `n` items, in order, finishing exactly at the
end of the buffer (property C14, second sentence).
-/
namespace Lemmas.Sequence
open Spec Lemmas.Refine

/-- `fuel` ≥ number of items + 1.  The buffer argument is the part not yet consumed: after a successful load the loop
continues on `buf.extract read buf.size`.  Returns the items decoded so far and the failing result if a load failed.

With `fuel = n + 1`, the answer `(ts, none)` with `ts.length = n` can only be produced by the `buf.size = 0` test
of the `(n+1)`-th round: the loop stopped because nothing was left. -/
def loadAll (L : Nat) : Nat → Array UInt8 → List Item × Option Model.LoadResult
  | 0, _ => ([], none)
  | fuel+1, buf =>
    if buf.size = 0 then ([], none)
    else
      let o := Model.load ωT L ⟨.none, 0, 0⟩ buf
      match o.item with
      | none => ([], some o.result)
      | some t =>
        let r := loadAll L fuel (buf.extract o.result.read buf.size)
        (t :: r.1, r.2)

def concat : List (Array UInt8) → Array UInt8
  | [] => #[]
  | x :: xs => x ++ concat xs

@[simp] theorem concat_nil : concat [] = #[] := rfl
@[simp] theorem concat_cons (x : Array UInt8) (xs : List (Array UInt8)) : concat (x :: xs) = x ++ concat xs := rfl

theorem concat_eq_flatten (xs : List (Array UInt8)) : concat xs = xs.toArray.flatten := by
  induction xs with
  | nil => simp
  | cons x xs ih => simp [ih, Array.flatten_toArray]

theorem concat_toList (xs : List (Array UInt8)) : (concat xs).toList = (xs.map Array.toList).flatten := by
  induction xs with
  | nil => simp
  | cons x xs ih => simp [ih]

theorem concat_map_toArray (ls : List (List UInt8)) : concat (ls.map List.toArray) = ls.flatten.toArray := by
  induction ls with
  | nil => simp
  | cons l ls ih => simp [ih]

theorem length_le_flatten {α β : Type} (f : α → List β) (ts : List α) (t : α) (ht : t ∈ ts) :
    (f t).length ≤ (ts.map f).flatten.length := by
  induction ts with
  | nil => cases ht
  | cons a ts ih =>
    simp only [List.map_cons, List.flatten_cons, List.length_append]
    rcases List.mem_cons.mp ht with rfl | h
    · omega
    · have := ih h; omega

def IsItem (L : Nat) (x : Array UInt8) (t : Item) : Prop :=
  ∃ r0, (Model.load ωT L r0 x).item = some t ∧ (Model.load ωT L r0 x).result.read = x.size

theorem loadAll_step (L fuel : Nat) (x rest : Array UInt8) (t : Item) (hsz : (x ++ rest).size < 2 ^ 56)
    (hx : IsItem L x t) :
    loadAll L (fuel + 1) (x ++ rest) = (t :: (loadAll L fuel rest).1, (loadAll L fuel rest).2) := by
  obtain ⟨r0, hit, hrd⟩ := hx
  have hxs : x.size < 2 ^ 56 := by simp at hsz; omega
  have hpos := Props.C02.C02_read_bounds x hxs L r0 t hit
  have hne : ¬ (x ++ rest).size = 0 := by simp only [Array.size_append]; omega
  have h := Props.C14.C14_suffix x rest hsz L r0 ⟨.none, 0, 0⟩ t x.size ⟨hit, hrd⟩
  rw [loadAll, if_neg hne]
  simp only [h.1, h.2, Props.C14.extract_append_size]

theorem loadAll_concat (L : Nat) (ps : List (Array UInt8 × Item))
    (hall : ∀ p ∈ ps, IsItem L p.1 p.2) (hsz : (concat (ps.map Prod.fst)).size < 2 ^ 56)
    (fuel : Nat) (hf : ps.length < fuel) :
    loadAll L fuel (concat (ps.map Prod.fst)) = (ps.map Prod.snd, none) := by
  induction ps generalizing fuel with
  | nil =>
    cases fuel with
    | zero => rfl
    | succ f => simp [loadAll]
  | cons p ps ih =>
    cases fuel with
    | zero => simp at hf
    | succ f =>
      simp only [List.map_cons, concat_cons] at hsz ⊢
      have hr : (concat (ps.map Prod.fst)).size < 2 ^ 56 := by simp only [Array.size_append] at hsz; omega
      rw [loadAll_step L f p.1 _ p.2 hsz (hall p (by simp)),
        ih (fun q hq => hall q (by simp [hq])) hr f (by simpa using hf)]

theorem loadAll_concat_idx (L : Nat) (xs : List (Array UInt8)) (ts : List Item) (hlen : ts.length = xs.length)
    (hall : ∀ i (h : i < xs.length), IsItem L xs[i] (ts[i]'(by omega))) (hsz : (concat xs).size < 2 ^ 56)
    (fuel : Nat) (hf : xs.length < fuel) :
    loadAll L fuel (concat xs) = (ts, none) := by
  have h1 : (xs.zip ts).map Prod.fst = xs := List.map_fst_zip (by omega)
  have h2 : (xs.zip ts).map Prod.snd = ts := List.map_snd_zip (by omega)
  have := loadAll_concat L (xs.zip ts) (by
    intro p hp
    obtain ⟨i, hi, rfl⟩ := List.getElem_of_mem hp
    simp only [List.length_zip] at hi
    simp only [List.getElem_zip]
    exact hall i (by omega)) (by rw [h1]; exact hsz) fuel (by simp only [List.length_zip]; omega)
  rwa [h1, h2] at this

end Lemmas.Sequence

namespace Props.C14
open Model Spec Lemmas.Refine Lemmas.Sequence

/-- **C14, second sentence: repeatedly decoding at an offset advanced by bytes-read splits any concatenation of `n`
items into exactly those `n` items, in order, finishing exactly at the end of the buffer.**

Each `xs[i]` is exactly one acceptable item encoding of `ts[i]` (loading it succeeds and reads all of it; non-canonical
encodings allowed).  With fuel `n + 1` the answer `(ts, none)` means the `(n+1)`-th round found the remaining buffer empty. -/
theorem C14_sequence (L : Nat) (xs : List (Array UInt8)) (ts : List Item) (hlen : ts.length = xs.length)
    (hall : ∀ i (h : i < xs.length), ∃ r0 : LoadResult,
      (Model.load ωT L r0 xs[i]).item = some (ts[i]'(by omega)) ∧ (Model.load ωT L r0 xs[i]).result.read = xs[i].size)
    (hsz : (concat xs).size < 2 ^ 56) :
    loadAll L (xs.length + 1) (concat xs) = (ts, none) :=
  loadAll_concat_idx L xs ts hlen hall hsz _ (Nat.lt_succ_self _)

/-- the client loop is insensitive to its bound once the bound exceeds the number of items -/
theorem C14_sequence_fuel (L : Nat) (xs : List (Array UInt8)) (ts : List Item) (hlen : ts.length = xs.length)
    (hall : ∀ i (h : i < xs.length), ∃ r0 : LoadResult,
      (Model.load ωT L r0 xs[i]).item = some (ts[i]'(by omega)) ∧ (Model.load ωT L r0 xs[i]).result.read = xs[i].size)
    (hsz : (concat xs).size < 2 ^ 56) (fuel : Nat) (hf : xs.length < fuel) :
    loadAll L fuel (concat xs) = (ts, none) :=
  loadAll_concat_idx L xs ts hlen hall hsz fuel hf

/-- **Encoder corollary.**  For trees `t₁ … tₙ`, each valid, canonical and nested within the limit `L`, with total
encoded length below `2^56`: the client loop run on `encode t₁ ++ … ++ encode tₙ` returns exactly
`[renorm t₁, …, renorm tₙ]` (the trees with NaNs canonical), no failing load, nothing left. -/
theorem C14_sequence_encoded (L : Nat) (ts : List Item)
    (hv : ∀ t ∈ ts, Lemmas.Ser.Valid t) (hc : ∀ t ∈ ts, Spec.RT.Canon t) (hd : ∀ t ∈ ts, openDepth t ≤ L)
    (hsz : (ts.map encode).flatten.length < 2 ^ 56) :
    loadAll L (ts.length + 1) (ts.map encode).flatten.toArray = (ts.map Spec.RT.renorm, none) := by
  have hcat : (ts.map encode).flatten.toArray = concat ((ts.map fun t => ((encode t).toArray, Spec.RT.renorm t)).map Prod.fst) := by
    rw [← concat_map_toArray, List.map_map, List.map_map]; rfl
  have hlen : ∀ t ∈ ts, (encode t).length < 2 ^ 56 := by
    intro t ht
    have := length_le_flatten encode ts t ht
    omega
  have := loadAll_concat L (ts.map fun t => ((encode t).toArray, Spec.RT.renorm t)) (by
    intro p hp
    obtain ⟨t, ht, rfl⟩ := List.mem_map.mp hp
    have h := Props.C03.C03_roundtrip t (hv t ht) (hc t ht) L (hd t ht) (hlen t ht) ⟨.none, 0, 0⟩
    exact ⟨⟨.none, 0, 0⟩, h.1, by simpa using h.2.2.1⟩) (by rw [← hcat]; simpa using hsz)
    (ts.length + 1) (by simp)
  rw [hcat, this, List.map_map]; rfl

/-- non-vacuity: the three-item sequence `1`, `[2, 3]`, `"a"` is split into its three items, nothing left -/
example : loadAll 2048 4 #[0x01, 0x82, 0x02, 0x03, 0x61, 0x61] =
    ([.uint .w8 1, .array [.uint .w8 2, .uint .w8 3], .text [0x61]], none) := by
  have h : (match loadAll 2048 4 #[0x01, 0x82, 0x02, 0x03, 0x61, 0x61] with
      | ([.uint .w8 1, .array [.uint .w8 2, .uint .w8 3], .text [0x61]], none) => true
      | _ => false) = true := by decide +kernel
  split at h
  · assumption
  · cases h

/-- and a sequence whose last item is cut short stops there, reporting the failing load after the good items -/
example : (loadAll 2048 4 #[0x01, 0x82, 0x02]).1.length = 1 ∧ (loadAll 2048 4 #[0x01, 0x82, 0x02]).2.isSome = true := by
  decide +kernel

end Props.C14
