import Cbor.Lemmas.BuilderShapes
import Cbor.Lemmas.SdSpec
import Cbor.Spec.HeadLemmas
import Cbor.Lemmas.Heap
import Cbor.Lemmas.UInt
/-!
# `cbor_load` under an arbitrary allocator: no internal fault, two outcomes

For every oracle (every choice of which allocator requests are refused) the model of `cbor_load` finishes
with its fault flag clear and with exactly one of "an item, code NONE" / "no item, an error code".
-/
namespace Lemmas.Safe
open Model

/-- frames the builder itself pushed are well formed -/
def WFF : Frame → Prop
  | ⟨.arrD alloc xs, sub⟩ => 1 ≤ sub.toNat ∧ xs.length + sub.toNat = alloc
  | ⟨.mapD alloc kvs key, sub⟩ =>
      1 ≤ sub.toNat ∧ (key.isSome ↔ sub.toNat % 2 = 1) ∧ 2 * kvs.length + (if key.isSome then 1 else 0) + sub.toNat = 2 * alloc
  | ⟨.mapI _ _ key, sub⟩ => (sub = 0 ∨ sub = 1) ∧ (key.isSome ↔ sub = 1)
  | ⟨.tag _ _, sub⟩ => sub = 1
  | _ => True

def AllWF (s : List Frame) : Prop := ∀ f ∈ s, WFF f

/-- after delivering an item / handling a head: no fault, and either an error flag is up or the stack is well formed
and an empty stack means the root has been delivered -/
def Post (c : Ctx) : Prop :=
  c.fault = false ∧ (c.creationFailed = true ∨ c.syntaxError = true ∨ (AllWF c.stack ∧ (c.stack = [] → c.root.isSome)))

theorem alloc_eq (c : Ctx) (ω : Oracle) (b : Nat) : (c.alloc ω b).2 = { c with reqs := c.reqs + 1 } := rfl

theorem post_failed' {c : Ctx} (hf : c.fault = false) (h : c.creationFailed = true) : Post c := ⟨hf, Or.inl h⟩
theorem post_syntax' {c : Ctx} (hf : c.fault = false) (h : c.syntaxError = true) : Post c := ⟨hf, Or.inr (Or.inl h)⟩
theorem post_stack' {c : Ctx} (hf : c.fault = false) (hs : AllWF c.stack) (hne : c.stack ≠ []) : Post c :=
  ⟨hf, Or.inr (Or.inr ⟨hs, fun e => absurd e hne⟩)⟩

/-- an allocator request changes nothing but the request counter -/
def Same (c c' : Ctx) : Prop :=
  c'.stack = c.stack ∧ c'.fault = c.fault ∧ c'.root = c.root ∧ c'.creationFailed = c.creationFailed ∧ c'.syntaxError = c.syntaxError

theorem same_alloc (c : Ctx) (ω : Oracle) (b : Nat) : Same c (c.alloc ω b).2 := ⟨rfl, rfl, rfl, rfl, rfl⟩
theorem same_allocMultiple (c : Ctx) (ω : Oracle) (a b : Nat) : Same c (c.allocMultiple ω a b).2 := by
  unfold Ctx.allocMultiple; split <;> exact ⟨rfl, rfl, rfl, rfl, rfl⟩
theorem same_growAlloc (c : Ctx) (ω : Oracle) (a b : Nat) : Same c (c.growAlloc ω a b).2 := by
  unfold Ctx.growAlloc; split
  · exact same_allocMultiple c ω a _
  · exact ⟨rfl, rfl, rfl, rfl, rfl⟩

theorem post_of_same {c c' : Ctx} (hs : Same c c') (hp : Post c) : Post c' := by
  obtain ⟨h1, h2, h3, h4, h5⟩ := hs
  unfold Post at *
  rw [h2, h4, h5, h1, h3]; exact hp

theorem allwf_cons {f : Frame} {s : List Frame} (hf : WFF f) (hs : AllWF s) : AllWF (f :: s) := by
  intro g hg; rcases List.mem_cons.mp hg with e | e
  · subst e; exact hf
  · exact hs g e

theorem allwf_tail {f : Frame} {s : List Frame} (h : AllWF (f :: s)) : AllWF s := fun g hg => h g (by simp [hg])

theorem post_ite {b : Prop} [Decidable b] {x y : Ctx} (hx : Post x) (hy : Post y) : Post (if b then x else y) := by
  split <;> assumption

theorem grow_post {c : Ctx} (ω : Oracle) (elt al : Nat) {f : Frame} {rest : List Frame} (hf : c.fault = false)
    (hw : AllWF (f :: rest)) : Post (c.grown ω elt al f rest) := by
  obtain ⟨k, e | e⟩ := c.grown_cases ω elt al f rest <;> rw [e]
  · exact post_stack' hf hw (List.cons_ne_nil _ _)
  · exact post_failed' hf rfl

/-- a well-formed frame trips no assertion when it is given an item, and the frame that results is well formed -/
theorem take_wff (x : Spec.Item) {top : Frame} (hw : WFF top) :
    match top.take x with
    | .bad => False
    | .put f | .grow _ _ f => WFF f
    | _ => True := by
  obtain ⟨it, sub⟩ := top
  cases it <;> simp only [WFF] at hw
  case arrD al xs =>
    have hsub := u64_pred_toNat sub hw.1
    simp only [Frame.take, if_neg (show ¬ sub.toNat = 0 by omega), if_neg (show ¬ al ≤ xs.length by omega)]
    by_cases h1 : sub.toNat = 1
    · simp only [h1, if_true]
    · simp only [h1, if_false, WFF, List.length_append, List.length_singleton]; omega
  case arrI al xs => by_cases hfull : al ≤ xs.length <;> simp only [Frame.take, hfull, if_true, if_false, WFF]
  case mapD al kvs key =>
    obtain ⟨h1, h2, h3⟩ := hw
    have hsub := u64_pred_toNat sub h1
    cases key with
    | none =>
      simp only [Option.isSome_none, Bool.false_eq_true, if_false, false_iff, Nat.add_zero] at h2 h3
      simp only [Frame.take, if_neg h2, if_neg (show ¬ sub.toNat = 0 by omega)]
      by_cases hfull : al ≤ kvs.length
      · simp only [hfull, if_true]
      · simp only [hfull, if_false, WFF, Option.isSome_some, if_true, true_iff]; omega
    | some k =>
      simp only [Option.isSome_some, if_true, true_iff] at h2 h3
      simp only [Frame.take, if_pos h2]
      by_cases hl : sub.toNat = 1
      · simp only [hl, if_true]
      · simp only [hl, if_false, WFF, List.length_append, List.length_singleton, Option.isSome_none, Bool.false_eq_true, false_iff]
        omega
  case mapI al kvs key =>
    obtain ⟨h1, h2⟩ := hw
    rcases h1 with e | e <;> subst e
    · cases key with
      | some k => exact absurd (h2.mp rfl) (by decide)
      | none =>
        have w : ∀ al', WFF ⟨.mapI al' kvs (some x), (0 : UInt64) ^^^ 1⟩ := fun _ => ⟨Or.inr (by decide), by simp⟩
        by_cases hfull : al ≤ kvs.length <;> simp only [Frame.take, hfull, if_true, if_false] <;> exact w _
    · cases key with
      | none => exact absurd (h2.mpr rfl) (by simp)
      | some k => exact ⟨Or.inl (by decide), by simp⟩
  case tag n xo => subst hw; trivial
  all_goals trivial

/-- Delivering an item never trips an assertion, whatever the allocator does -/
theorem append_post (ω : Oracle) : ∀ (fuel : Nat) (item : Spec.Item) (c : Ctx), c.fault = false → AllWF c.stack →
    c.stack.length + 1 ≤ fuel → Post (append ω fuel item c)
  | 0, _, c, _, _, hl => by omega
  | fuel+1, item, c, hf, hw, hl => by
    cases hs : c.stack with
    | nil => rw [append_nil ω fuel item hs]; exact ⟨hf, Or.inr (Or.inr ⟨hw, fun _ => rfl⟩)⟩
    | cons top rest =>
      rw [hs] at hw hl
      have hwr := allwf_tail hw
      have ht := take_wff item (hw top (by simp))
      rw [append_cons ω fuel item hs]
      revert ht
      cases top.take item <;> intro ht
      case bad => exact ht.elim
      case syn => exact post_syntax' hf rfl
      case full => exact post_failed' hf rfl
      case put f => exact post_stack' hf (allwf_cons ht hwr) (List.cons_ne_nil _ _)
      case grow elt al f => exact grow_post ω elt al hf (allwf_cons ht hwr)
      case done it => exact append_post ω fuel _ _ hf hwr (by simp at hl ⊢; omega)

theorem pushFrame_post (ω : Oracle) (L : Nat) (c : Ctx) (it : PItem) (sub : UInt64) (hf : c.fault = false) (hw : AllWF c.stack)
    (hwf : WFF ⟨it, sub⟩) : Post (pushFrame ω L c it sub) := by
  rw [pushFrame_eq]
  exact post_ite (post_failed' hf rfl) (post_ite (post_stack' hf (allwf_cons hwf hw) (List.cons_ne_nil _ _)) (post_failed' hf rfl))

theorem scalar_post (ω : Oracle) (c : Ctx) (extra : Nat) (it : Spec.Item) (hf : c.fault = false) (hw : AllWF c.stack) :
    Post (scalar ω c extra it) := by
  rw [scalar_eq]
  exact post_ite (append_post ω _ it (c.asked 1) hf hw (Nat.le_refl _)) (post_failed' hf rfl)

theorem stringCb_post (ω : Oracle) (c : Ctx) (isText : Bool) (data : List UInt8) (hf : c.fault = false) (hw : AllWF c.stack) :
    Post (stringCb ω c isText data) := by
  rw [stringCb_eq]
  refine post_ite (post_ite ?_ (post_failed' hf rfl)) (post_failed' hf rfl)
  rcases stringTail_cases ω (c.asked 2) isText data with ⟨cap, cs, sub, rest, hs, e⟩ | e <;> rw [e]
  · have hwr : AllWF rest := allwf_tail (f := ⟨strPI isText cap cs, sub⟩) (by rw [← hs]; exact hw)
    have hstr : ∀ cap' cs', AllWF (⟨strPI isText cap' cs', sub⟩ :: rest) :=
      fun _ _ => allwf_cons (by cases isText <;> simp [strPI, WFF]) hwr
    exact post_ite (grow_post ω _ _ hf (hstr _ _)) (post_stack' hf (hstr _ _) (List.cons_ne_nil _ _))
  · exact append_post ω _ _ (c.asked 2) hf hw (Nat.le_refl _)

theorem indefString_post (ω : Oracle) (L : Nat) (c : Ctx) (isText : Bool) (hf : c.fault = false) (hw : AllWF c.stack) :
    Post (indefString ω L c isText) := by
  rw [indefString_eq]
  exact post_ite (post_ite (pushFrame_post ω L (c.asked 2) _ 0 hf hw (by cases isText <;> simp [strPI, WFF])) (post_failed' hf rfl))
    (post_failed' hf rfl)

theorem startPush_post (ω : Oracle) (L : Nat) (c : Ctx) (it : PItem) (sub : UInt64) (hf : c.fault = false) (hw : AllWF c.stack)
    (hit : WFF ⟨it, sub⟩) : Post (startPush ω L c it sub) := by
  rw [startPush_eq]
  exact post_ite (pushFrame_post ω L (c.asked 1) it sub hf hw hit) (post_failed' hf rfl)

/-- `hit`: the frame pushed for a non-empty container is well formed, given that its slots fit `size_t` -/
theorem defStart_post (ω : Oracle) (L : Nat) (c : Ctx) (elt : Nat) (n : UInt64) (it : PItem) (sub : UInt64) (e : Spec.Item)
    (hf : c.fault = false) (hw : AllWF c.stack) (hit : 1 ≤ n.toNat → Heap.mulOk elt n.toNat = true → WFF ⟨it, sub⟩) :
    Post (defStart ω L c elt n it sub e) := by
  rw [defStart_eq]
  split
  · split
    · rename_i hm
      split
      · split
        · rename_i hpos
          have h1 : 1 ≤ n.toNat := by
            have := UInt64.lt_iff_toNat_lt.mp hpos; simp at this; omega
          exact pushFrame_post ω L (c.asked 2) it sub hf hw (hit h1 hm)
        · exact append_post ω _ e (c.asked 2) hf hw (Nat.le_refl _)
      · exact post_failed' hf rfl
    · exact post_failed' hf rfl
  · exact post_failed' hf rfl

theorem breakCb_post (ω : Oracle) (c : Ctx) (hf : c.fault = false) (hw : AllWF c.stack) : Post (breakCb ω c) := by
  unfold breakCb
  cases hs : c.stack with
  | nil => exact post_syntax' hf rfl
  | cons top rest =>
    rw [hs] at hw
    exact post_ite (append_post ω _ _ { c with stack := rest } hf (allwf_tail hw) (by simp [fuelOf, hs])) (post_syntax' hf rfl)

/-- an event is admissible for a buffer when a string payload it points at lies inside the buffer -/
def EventOK (src : Array UInt8) : Gen.Event → Prop
  | .byte_string off len => off + len.toNat ≤ src.size
  | .string off len => off + len.toNat ≤ src.size
  | _ => True

/-- One callback never trips an assertion, whatever the allocator does -/
theorem callback_post (ω : Oracle) (L : Nat) (src : Array UInt8) (c : Ctx) (e : Gen.Event) (hf : c.fault = false) (hw : AllWF c.stack)
    (he : EventOK src e) : Post (callback ω L src c e) := by
  cases e <;> simp only [callback]
  case byte_string off len | string off len => simp only [EventOK] at he; rw [if_pos he]; exact stringCb_post ω c _ _ hf hw
  case byte_string_start => exact indefString_post ω L c _ hf hw
  case string_start => exact indefString_post ω L c _ hf hw
  case array_start n =>
    rw [arrayStart_eq]
    exact defStart_post ω L c _ n _ _ _ hf hw (fun h1 _ => by simp only [WFF, List.length_nil]; omega)
  case map_start n =>
    rw [mapStart_eq]
    refine defStart_post ω L c _ n _ _ _ hf hw (fun h1 hm => ?_)
    -- `n * 2` does not wrap: the guard has just admitted `16 * n`
    have hm := Heap.mulOk_sound szPair n.toNat (by decide) n.toNat_lt hm
    have h2 : (n * 2).toNat = 2 * n.toNat := by
      rw [UInt64.toNat_mul]; simp only [szPair] at hm
      rw [show (2 : UInt64).toNat = 2 from rfl]; omega
    simp only [WFF, List.length_nil, Option.isSome_none, Bool.false_eq_true, if_false, h2]
    exact ⟨by omega, ⟨(fun hh => nomatch hh), fun hh => by omega⟩, by omega⟩
  case indef_array_start => rw [indefContainer_eq]; exact startPush_post ω L c _ 0 hf hw (by simp [WFF])
  case indef_map_start => rw [indefContainer_eq]; exact startPush_post ω L c _ 0 hf hw (by simp [WFF])
  case tag v => rw [tagCb_eq]; exact startPush_post ω L c _ 1 hf hw (by simp [WFF])
  case indef_break => exact breakCb_post ω c hf hw
  all_goals exact scalar_post ω c _ _ hf hw

open Gen Lemmas in
theorem event_ok (src : Array UInt8) (read : Nat) (e : Event) (t : Spec.Tok) (hm : tokMatch read e t = true)
    (hp : ∀ o pl, t.payload = some (o, pl) → 1 ≤ o ∧ read + o + pl ≤ src.size) : EventOK src e := by
  cases e <;> simp only [EventOK]
  case byte_string off len | string off len =>
    simp only [tokMatch, toTok, beq_iff_eq] at hm
    subst hm
    have := hp _ _ rfl
    omega

def TwoOutcomes (o : LoadOut) : Prop :=
  o.fault = false ∧ ((∃ x, o.item = some x ∧ o.result.code = .none) ∨ (o.item = none ∧ o.result.code ≠ .none))

open Gen Lemmas in
theorem loop_safe (ω : Oracle) (L : Nat) (src : Array UInt8) (hsz : src.size < 2 ^ 64 - 1) :
    ∀ (fuel : Nat) (c : Ctx) (read : Nat), c.fault = false → AllWF c.stack → src.size - read < fuel → read ≤ src.size →
      TwoOutcomes (loadLoop ω L src fuel c read)
  | 0, _, _, _, _, hl, _ => by omega
  | fuel+1, c, read, hf, hw, hl, hr => by
    unfold loadLoop
    by_cases hmore : src.size > read
    · rw [if_pos hmore]
      have hn : (UInt64.ofNat (src.size - read)).toNat = src.size - read := by simp [UInt64.toNat_ofNat']; omega
      have hrel := sd_rel src read (UInt64.ofNat (src.size - read))
      rw [hn] at hrel
      simp only
      cases hd : Spec.decodeHead (Spec.getA src read) (src.size - read) with
      | ok t l =>
        rw [hd] at hrel
        obtain ⟨h1, h2, _, e, h4, h5⟩ := hrel
        have hok := Spec.decodeHead_ok hd
        have heok : EventOK src e := event_ok src read e t h5 (fun o pl hp => by have := hok.2.2 o pl hp; omega)
        obtain ⟨pf, pr⟩ := callback_post ω L src c e hf hw heok
        rw [h4, show List.foldl (callback ω L src) c [e] = callback ω L src c e from rfl, if_pos (by rw [h1]; rfl), h2]
        split
        · exact ⟨pf, Or.inr ⟨rfl, by simp⟩⟩
        · rename_i hcf
          split
          · exact ⟨pf, Or.inr ⟨rfl, by simp⟩⟩
          · rename_i hse
            obtain ⟨hwf, hroot⟩ : AllWF (callback ω L src c e).stack ∧ ((callback ω L src c e).stack = [] → (callback ω L src c e).root.isSome) := by
              rcases pr with h | h | h
              · exact absurd h hcf
              · exact absurd h hse
              · exact h
            split
            · exact loop_safe ω L src hsz fuel _ (read + l) pf hwf (by omega) (by omega)
            · rename_i hst
              have hnil : (callback ω L src c e).stack = [] := List.eq_nil_of_length_eq_zero (by omega)
              cases hrt : (callback ω L src c e).root with
              | none => have := hroot hnil; rw [hrt] at this; cases this
              | some x => exact ⟨by simp [pf], Or.inl ⟨x, rfl, rfl⟩⟩
      | nedata need | error =>
        -- no head: no event, and a status other than FINISHED
        rw [hd] at hrel
        have hev : (cbor_stream_decode src read (UInt64.ofNat (src.size - read))).2 = [] := by
          first | exact hrel.2.2.1 | exact hrel.2.2.2
        rw [hev, if_neg (by rw [hrel.1]; decide)]
        split <;> exact ⟨hf, Or.inr ⟨rfl, by simp⟩⟩
    · rw [if_neg hmore]
      exact ⟨hf, Or.inr ⟨rfl, by simp⟩⟩

/-- C01 / C06: for every allocator oracle — every choice of which requests are refused — every
buffer and every nesting limit, the model of `cbor_load` finishes with its internal-consistency flag clear and with
exactly one of the two outcomes: an item and code NONE, or no item and an error code. -/
theorem load_safe (ω : Oracle) (L : Nat) (r0 : LoadResult) (src : Array UInt8) (hsz : src.size < 2 ^ 64 - 1) :
    TwoOutcomes (load ω L r0 src) := by
  unfold load
  split
  · exact ⟨rfl, Or.inr ⟨rfl, by simp⟩⟩
  · exact loop_safe ω L src hsz (src.size + 1) {} 0 rfl (by simp [AllWF]) (by omega) (by omega)

end Lemmas.Safe
