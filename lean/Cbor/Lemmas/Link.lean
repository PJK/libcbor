import Cbor.Lemmas.Own
/-!
# Steps that leave the rest of the heap alone

What `cbor_copy` and the builder callbacks of `cbor_load` do between two allocations of cells: allocator requests that
leave no trace in the cells (`Req`), the overwrite of one live cell (`Upd`), and "store the member in its container,
take the container's reference to it, drop the caller's" (`link_release`) — which is such an overwrite, because taking a
reference and dropping it again cancel as heaps (`incref_decref`).  `Keeps` is what any sequence of steps preserves of
the cells that were there before.
-/
namespace Heap
open Spec (Item)

structure Keeps (N : Nat) (h h' : H) : Prop where
  fault : h'.fault = h.fault
  len : h.cells.length ≤ h'.cells.length
  old : ∀ x : Nat, x < N → h'.get x = h.get x

theorem Keeps.refl (N : Nat) (h : H) : Keeps N h h := ⟨rfl, Nat.le_refl _, fun _ _ => rfl⟩

theorem Keeps.trans {N : Nat} {h h1 h2 : H} (a : Keeps N h h1) (b : Keeps N h1 h2) : Keeps N h h2 :=
  ⟨b.fault.trans a.fault, Nat.le_trans a.len b.len, fun x hx => (b.old x hx).trans (a.old x hx)⟩

theorem Keeps.mono {M N : Nat} {h h' : H} (a : Keeps N h h') (hM : M ≤ N) : Keeps M h h' :=
  ⟨a.fault, a.len, fun x hx => a.old x (Nat.lt_of_lt_of_le hx hM)⟩

theorem Keeps.of_cells {N : Nat} {h h' : H} (hc : h'.cells = h.cells) (hf : h'.fault = h.fault) : Keeps N h h' :=
  ⟨hf, by rw [hc]; exact Nat.le_refl _, fun x _ => get_congr hc x⟩

theorem Keeps.snoc {h h1 : H} {c : Cell} (hf : h1.fault = h.fault) (hc : h1.cells = h.cells ++ [some c]) : Keeps h.cells.length h h1 :=
  ⟨hf, by simp [hc], fun x hx => get_snoc_other hc x (Nat.ne_of_lt hx)⟩

theorem Keeps.own {N : Nat} {h h' : H} {t : Item} {y lo hi : Nat} (k : Keeps N h h') (ho : Own t h y lo hi) (hN : hi ≤ N) :
    Own t h' y lo hi :=
  own_congr (fun r _ hr => k.old r (Nat.lt_of_lt_of_le hr hN)) ho

theorem Keeps.ownList {N : Nat} {h h' : H} {ts : List Item} {xs : List Ref} {lo hi : Nat} (k : Keeps N h h')
    (ho : OwnList ts h xs lo hi) (hN : hi ≤ N) : OwnList ts h' xs lo hi :=
  ownList_congr (fun r _ hr => k.old r (Nat.lt_of_lt_of_le hr hN)) ho

theorem Freed.keeps {N lo hi : Nat} {h h' : H} (f : Freed h h' lo hi) (hN : N ≤ lo) : Keeps N h h' :=
  ⟨f.fault, Nat.le_of_eq f.len.symm, fun _ hx => f.below (Nat.lt_of_lt_of_le hx hN)⟩

structure Req (h h1 : H) (k : Nat) : Prop where
  cells : h1.cells = h.cells
  fault : h1.fault = h.fault
  reqs : h1.reqs = h.reqs + k

theorem Req.refl (h : H) : Req h h 0 := ⟨rfl, rfl, rfl⟩
theorem req_mk (h : H) (k : Nat) : Req h { h with reqs := h.reqs + k } k := ⟨rfl, rfl, rfl⟩
theorem Req.get {h h1 : H} {k : Nat} (q : Req h h1 k) (r : Ref) : h1.get r = h.get r := get_congr q.cells r

theorem Req.keeps {h h1 : H} {k : Nat} (q : Req h h1 k) (N : Nat) : Keeps N h h1 := Keeps.of_cells q.cells q.fault

theorem grow_req (ω : Oracle) (h : H) (sz al : Nat) : ∃ k, Req h (grow ω h sz al).2 k :=
  have ⟨hc, hf, k, hr⟩ := grow_same ω h sz al
  ⟨k, hc, hf, hr⟩

structure Upd (h h' : H) (a : Nat) (c : Cell) (k : Nat) : Prop where
  len : h'.cells.length = h.cells.length
  reqs : h'.reqs = h.reqs + k
  fault : h'.fault = h.fault
  cell : h'.get a = some c
  other : ∀ r : Nat, r ≠ a → h'.get r = h.get r

theorem Upd.keeps {h h' : H} {a N k : Nat} {c : Cell} (u : Upd h h' a c k) (hN : N ≤ a) : Keeps N h h' :=
  ⟨u.fault, Nat.le_of_eq u.len.symm, fun x hx => u.other x (Nat.ne_of_lt (Nat.lt_of_lt_of_le hx hN))⟩

theorem upd_put {h h1 : H} {k a : Nat} (q : Req h h1 k) (ha : a < h.cells.length) (c : Cell) : Upd h (h1.put a (some c)) a c k :=
  ⟨by simp [q.cells], q.reqs, q.fault, get_put_same _ _ _ (by rw [q.cells]; exact ha),
    fun r hr => by rw [get_put_other _ _ _ _ hr, q.get]⟩

theorem Upd.ownList_append {h h' : H} {a k mid : Nat} {c : Cell} {ts ts' : List Item} {xs xs' : List Ref} (u : Upd h h' a c k)
    (ho : OwnList ts h xs (a + 1) mid) (hn : OwnList ts' h xs' mid h.cells.length) :
    OwnList (ts ++ ts') h' (xs ++ xs') (a + 1) h'.cells.length := by
  have := ownList_le ho
  rw [u.len]
  exact Heap.ownList_append (ownList_congr (fun r hr _ => u.other r (by omega)) ho)
    (ownList_congr (fun r hr _ => u.other r (by omega)) hn)

theorem put_get_self {h : H} {y : Ref} {c : Option Cell} (hl : y < h.cells.length) (hg : h.get y = c) : h.put y c = h := by
  obtain ⟨cells, reqs, fault⟩ := h
  simp only [H.put, H.mk.injEq, and_true]
  simp only [H.get] at hg
  apply List.ext_getElem?
  intro i
  by_cases e : i = y
  · subst e
    simp only [List.getElem?_set_self hl]
    cases hc : cells[i]? with
    | none => exact absurd (List.getElem?_eq_none_iff.mp hc) (Nat.not_le.mpr hl)
    | some x => rw [hc] at hg; simp at hg; rw [hg]
  · rw [List.getElem?_set_ne (Ne.symm e)]

theorem incref_eq {h : H} {y : Ref} {n : Node} {rc : Nat} (hg : h.get y = some ⟨n, rc⟩) :
    h.incref y = h.put y (some ⟨n, rc + 1⟩) := by
  simp [H.incref, hg]

theorem decref_rc2 {h : H} {y : Ref} {n : Node} {rc : Nat} (hg : h.get y = some ⟨n, rc + 2⟩) :
    h.decref y = h.put y (some ⟨n, rc + 1⟩) := by
  unfold H.decref H.fuel Heap.decref
  rw [hg]; simp

theorem incref_decref {h : H} {y : Ref} {n : Node} {rc : Nat} (hg : h.get y = some ⟨n, rc + 1⟩) : (h.incref y).decref y = h := by
  have hl := get_lt hg
  rw [incref_eq hg, decref_rc2 (n := n) (rc := rc) (get_put_same _ _ _ hl)]
  simp only [H.put, List.set_set]
  exact put_get_self hl hg

theorem incref_comm {h : H} {x y : Nat} {cx cy : Cell} (hx : h.get x = some cx) (hy : h.get y = some cy) (hne : x ≠ y) :
    (h.incref x).incref y = (h.incref y).incref x := by
  rw [incref_eq hx, incref_eq hy, incref_eq ((get_put_other _ _ _ _ (Ne.symm hne)).trans hy),
    incref_eq ((get_put_other _ _ _ _ hne).trans hx)]
  simp only [H.put, List.set_comm _ _ hne]

theorem link_release {h h1 : H} {k a y : Nat} {n : Node} (q : Req h h1 k) (c : Cell) (ha : a < h.cells.length)
    (hy : h.get y = some ⟨n, 1⟩) (hne : a ≠ y) : Upd h (((h1.put a (some c)).incref y).decref y) a c k := by
  rw [incref_decref (n := n) (rc := 0) (by rw [get_put_other _ _ _ _ (Ne.symm hne), q.get]; exact hy)]
  exact upd_put q ha c

/-- complete a pair: store the map cell, take references to key and value, drop the caller's two references — the value's
first (the builder) or the key's first (`cbor_copy`) -/
theorem link2_release {h h1 : H} {j m k v : Nat} {nk nv : Node} (q : Req h h1 j) (c : Cell) (hm : m < h.cells.length)
    (hk : h.get k = some ⟨nk, 1⟩) (hv : h.get v = some ⟨nv, 1⟩) (hmk : m ≠ k) (hmv : m ≠ v) (hkv : k ≠ v) :
    Upd h (((((h1.put m (some c)).incref k).incref v).decref v).decref k) m c j ∧
    Upd h (((((h1.put m (some c)).incref k).incref v).decref k).decref v) m c j := by
  have ek : (h1.put m (some c)).get k = some ⟨nk, 1⟩ := by rw [get_put_other _ _ _ _ (Ne.symm hmk), q.get]; exact hk
  have ev : (h1.put m (some c)).get v = some ⟨nv, 1⟩ := by rw [get_put_other _ _ _ _ (Ne.symm hmv), q.get]; exact hv
  have ek' : ((h1.put m (some c)).incref v).get k = some ⟨nk, 1⟩ := (incref_get_other _ _ _ hkv).trans ek
  have ev' : ((h1.put m (some c)).incref k).get v = some ⟨nv, 1⟩ := (incref_get_other _ _ _ (Ne.symm hkv)).trans ev
  rw [incref_decref (rc := 0) ev', incref_decref (rc := 0) ek, incref_comm ek ev hkv, incref_decref (rc := 0) ek',
    incref_decref (rc := 0) ev]
  exact ⟨upd_put q hm c, upd_put q hm c⟩

end Heap
