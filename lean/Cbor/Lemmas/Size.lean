import Cbor.Lemmas.Ser
import Cbor.Props.C20
/-!
`Model.size` is the length of `Spec.encode` as a `size_t`, or 0 when it does not fit (`size_spec`).  `Rep` here says that the lengths and
counts inside an item fit `size_t`; it is not `Props.LeafSerializers.Rep`, which relates an item to an `ItemRec`.
-/
namespace Lemmas.Ser
open Model Spec Gen

/-- the `size_t` a size computation reports: the size, or 0 when it does not fit -/
def sz (k : Nat) : UInt64 := if k < 2 ^ 64 then UInt64.ofNat k else 0

theorem sz_lt (k : Nat) (h : k < 2 ^ 64) : sz k = UInt64.ofNat k := by simp [sz, h]
theorem sz_ge (k : Nat) (h : ¬ k < 2 ^ 64) : sz k = 0 := by simp [sz, h]

/-! The generated size helpers are used only through their specification lemmas (`Props.C20`), never unfolded here. -/
theorem ssadd_zero_l (b : UInt64) : _cbor_safe_signaling_add 0 b = 0 := by
  apply UInt64.toNat_inj.mp; rw [Props.C20.C20_sadd]; simp
theorem ssadd_zero_r (a : UInt64) : _cbor_safe_signaling_add a 0 = 0 := by
  apply UInt64.toNat_inj.mp; rw [Props.C20.C20_sadd]; simp

theorem ssadd_sz (a b : Nat) (ha : 0 < a) (hb : 0 < b) :
    _cbor_safe_signaling_add (sz a) (sz b) = sz (a + b) := by
  by_cases h1 : a < 2 ^ 64
  · by_cases h2 : b < 2 ^ 64
    · rw [sz_lt a h1, sz_lt b h2]
      have e1 := ofNat_toNat_small a h1
      have e2 := ofNat_toNat_small b h2
      apply UInt64.toNat_inj.mp
      rw [Props.C20.C20_sadd, e1, e2]
      have n1 : ¬ UInt64.ofNat a = 0 := by intro h; rw [h] at e1; simp at e1; omega
      have n2 : ¬ UInt64.ofNat b = 0 := by intro h; rw [h] at e2; simp at e2; omega
      simp only [n1, n2, false_or]
      by_cases h3 : a + b < 2 ^ 64
      · rw [sz_lt _ h3, ofNat_toNat_small _ h3, if_neg (by omega)]
      · rw [sz_ge _ h3, if_pos (by omega)]; rfl
    · rw [sz_ge b h2, ssadd_zero_r, sz_ge]; omega
  · rw [sz_ge a h1, ssadd_zero_l, sz_ge]; omega

theorem hsize_spec (mt v : Nat) (h : v < 2 ^ 64) :
    _cbor_encoded_header_size (UInt64.ofNat v) = sz (Spec.head mt v).length := by
  have hl := head_len_le mt v
  rw [sz_lt _ (by omega)]
  apply UInt64.toNat_inj.mp
  rw [Props.C20.C20_header_size, ofNat_toNat_small v h, ofNat_toNat_small _ (by omega), head_length]
  -- the same cascade, with the thresholds spelt `≤ 23` on one side and `< 24` on the other
  simp only [← Nat.lt_add_one_iff, Nat.reduceAdd]

mutual
/-- lengths and counts the C representation stores in a `size_t` -/
def Rep : Item → Prop
  | .bytes b => b.length < 2 ^ 64
  | .text b => b.length < 2 ^ 64
  | .bytesI cs => ∀ c ∈ cs, c.length < 2 ^ 64
  | .textI cs => ∀ c ∈ cs, c.length < 2 ^ 64
  | .array xs => xs.length < 2 ^ 64 ∧ RepL xs
  | .arrayI xs => RepL xs
  | .map kvs => kvs.length < 2 ^ 64 ∧ RepP kvs
  | .mapI kvs => RepP kvs
  | .tag _ x => Rep x
  | _ => True
def RepL : List Item → Prop
  | [] => True
  | x :: xs => Rep x ∧ RepL xs
def RepP : List (Item × Item) → Prop
  | [] => True
  | (k, v) :: r => Rep k ∧ Rep v ∧ RepP r
end

theorem sizeString_spec (mt len : Nat) (h : len < 2 ^ 64) :
    sizeString len = sz ((Spec.head mt len).length + len) := by
  unfold sizeString
  simp only [hsize_spec mt len h]
  split
  · subst len; rfl
  · rw [← sz_lt len h]
    exact ssadd_sz _ _ (head_pos mt len) (by omega)

theorem sizeChunks_spec (mt : Nat) : ∀ (cs : List (List UInt8)) (a : Nat), 0 < a → (∀ c ∈ cs, c.length < 2 ^ 64) →
    sizeChunks cs (sz a) = sz (a + (encodeChunks mt cs).length)
  | [], a, _, _ => by simp [sizeChunks, encodeChunks]
  | c :: cs, a, ha, h => by
    simp only [sizeChunks, encodeChunks, List.length_append]
    rw [sizeString_spec mt c.length (h c (by simp))]
    have hp := head_pos mt c.length
    rw [ssadd_sz _ _ ha (by omega)]
    rw [sizeChunks_spec mt cs _ (by omega) (fun c hc => h c (by simp [hc]))]
    congr 1; omega

theorem sz2 : (2 : UInt64) = sz 2 := rfl

mutual
theorem size_spec : ∀ (t : Item), Valid t → Rep t → size t = sz (encode t).length
  | .uint w v, _, _ | .negint w v, _, _ => by
    cases w <;> simp only [size, encode, Spec.headBytes_length, intAi]
    · by_cases h : v < 24
      · rw [if_pos (by omega), if_pos h, if_pos h]; rfl
      · rw [if_neg (by omega), if_neg h, if_neg (by omega)]; rfl
    all_goals rfl
  | .bytes b, _, hr => by
    simp only [Rep] at hr
    simp only [size, encode, List.length_append]; exact sizeString_spec 2 _ hr
  | .text b, _, hr => by
    simp only [Rep] at hr
    simp only [size, encode, List.length_append]; exact sizeString_spec 3 _ hr
  | .bytesI cs, _, hr => by
    simp only [Rep] at hr
    simp only [size, encode, List.length_append, List.length_cons, List.length_nil]
    rw [sz2, sizeChunks_spec 2 cs 2 (by omega) hr]; congr 1; omega
  | .textI cs, _, hr => by
    simp only [Rep] at hr
    simp only [size, encode, List.length_append, List.length_cons, List.length_nil]
    rw [sz2, sizeChunks_spec 3 cs 2 (by omega) hr]; congr 1; omega
  | .array xs, hv, hr => by
    simp only [Valid] at hv; simp only [Rep] at hr
    simp only [size, encode, List.length_append]
    rw [hsize_spec 4 _ hr.1]
    exact sizeList_spec xs hv hr.2 _ (head_pos 4 xs.length)
  | .arrayI xs, hv, hr => by
    simp only [Valid] at hv; simp only [Rep] at hr
    simp only [size, encode, List.length_append, List.length_cons, List.length_nil]
    rw [sz2, sizeList_spec xs hv hr 2 (by omega)]; congr 1; omega
  | .map kvs, hv, hr => by
    simp only [Valid] at hv; simp only [Rep] at hr
    simp only [size, encode, List.length_append]
    rw [hsize_spec 5 _ hr.1]
    exact sizePairs_spec kvs hv hr.2 _ (head_pos 5 kvs.length)
  | .mapI kvs, hv, hr => by
    simp only [Valid] at hv; simp only [Rep] at hr
    simp only [size, encode, List.length_append, List.length_cons, List.length_nil]
    rw [sz2, sizePairs_spec kvs hv hr 2 (by omega)]; congr 1; omega
  | .tag t x, hv, hr => by
    simp only [Valid] at hv; simp only [Rep] at hr
    simp only [size, encode, List.length_append]
    rw [hsize_spec 6 _ hv.1, size_spec x hv.2 hr]
    exact ssadd_sz _ _ (head_pos 6 t) (encode_pos x)
  | .simple v, hv, _ => by
    simp only [Valid] at hv
    simp only [size, encode, Spec.headBytes_length]
    rw [Nat.mod_eq_of_lt hv, hsize_spec 7 v (by omega), head_length]
    simp only [Spec.argBytes]
    by_cases c : v < 24
    · simp [c]
    · have : v < 256 := hv
      simp [c, this]
  | .half f, _, _ => by simp only [size, encode, Spec.headBytes_length, Spec.argBytes]; rfl
  | .single f, _, _ => by simp only [size, encode, Spec.headBytes_length, Spec.argBytes]; rfl
  | .double f, _, _ => by simp only [size, encode, Spec.headBytes_length, Spec.argBytes]; rfl

theorem sizeList_spec : ∀ (xs : List Item), ValidL xs → RepL xs → ∀ (a : Nat), 0 < a →
    sizeList xs (sz a) = sz (a + (encodeList xs).length)
  | [], _, _, a, _ => by simp [sizeList, encodeList]
  | x :: xs, hv, hr, a, ha => by
    simp only [ValidL] at hv; simp only [RepL] at hr
    simp only [sizeList, encodeList, List.length_append]
    rw [size_spec x hv.1 hr.1, ssadd_sz _ _ ha (encode_pos x), sizeList_spec xs hv.2 hr.2 _ (by omega)]
    congr 1; omega

theorem sizePairs_spec : ∀ (kvs : List (Item × Item)), ValidP kvs → RepP kvs → ∀ (a : Nat), 0 < a →
    sizePairs kvs (sz a) = sz (a + (encodePairs kvs).length)
  | [], _, _, a, _ => by simp [sizePairs, encodePairs]
  | (k, v) :: r, hv, hr, a, ha => by
    simp only [ValidP] at hv; simp only [RepP] at hr
    simp only [sizePairs, encodePairs, List.length_append]
    rw [size_spec k hv.1 hr.1, size_spec v hv.2.1 hr.2.1, ssadd_sz _ _ (encode_pos k) (encode_pos v),
      ssadd_sz _ _ ha (by have := encode_pos k; omega), sizePairs_spec r hv.2.2 hr.2.2 _ (by omega)]
    congr 1; omega
end

theorem sizeChunks_fold (cs : List (List UInt8)) (acc : UInt64) :
    sizeChunks cs acc = (cs.map List.length).foldl (fun a l => _cbor_safe_signaling_add a (sizeString l)) acc := by
  induction cs generalizing acc with
  | nil => rfl
  | cons c cs ih => simp [sizeChunks, ih]

theorem skelList_length : ∀ xs : List Item, (skelList xs).length = xs.length
  | [] => rfl
  | x :: xs => by simp [skelList, skelList_length xs]
theorem skelPairs_length : ∀ xs : List (Item × Item), (skelPairs xs).length = xs.length
  | [] => rfl
  | (k, v) :: xs => by simp [skelPairs, skelPairs_length xs]

mutual
/-- the size computation looks only at the skeleton: the model driven with recorded lengths (`sizeS`) is the
model the theorems are about (`size`) -/
theorem size_eq_sizeS : ∀ t : Item, size t = sizeS (skel t)
  | .uint _ _ => by simp [skel, sizeS]
  | .negint _ _ => by simp [skel, sizeS]
  | .bytes b => by simp [skel, sizeS, size]
  | .text b => by simp [skel, sizeS, size]
  | .bytesI cs => by simp [skel, sizeS, size, sizeChunks_fold]
  | .textI cs => by simp [skel, sizeS, size, sizeChunks_fold]
  | .array xs => by simp [skel, sizeS, size, skelList_length, sizeList_eq xs]
  | .arrayI xs => by simp [skel, sizeS, size, sizeList_eq xs]
  | .map kvs => by simp [skel, sizeS, size, skelPairs_length, sizePairs_eq kvs]
  | .mapI kvs => by simp [skel, sizeS, size, sizePairs_eq kvs]
  | .tag t x => by simp [skel, sizeS, size, size_eq_sizeS x]
  | .simple _ => by simp [skel, sizeS]
  | .half _ => by simp [skel, sizeS]
  | .single _ => by simp [skel, sizeS]
  | .double _ => by simp [skel, sizeS]
theorem sizeList_eq : ∀ (xs : List Item) (acc : UInt64), sizeList xs acc = sizeSList (skelList xs) acc
  | [], _ => rfl
  | x :: xs, acc => by simp [sizeList, skelList, sizeSList, size_eq_sizeS x, sizeList_eq xs]
theorem sizePairs_eq : ∀ (kvs : List (Item × Item)) (acc : UInt64), sizePairs kvs acc = sizeSPairs (skelPairs kvs) acc
  | [], _ => rfl
  | (k, v) :: r, acc => by simp [sizePairs, skelPairs, sizeSPairs, size_eq_sizeS k, size_eq_sizeS v, sizePairs_eq r]
end

end Lemmas.Ser
