import Cbor.Lemmas.BuilderShapes
import Cbor.Model.Abs
import Cbor.Lemmas.SdSpec
import Cbor.Props.C20
import Cbor.Lemmas.HalfSpec
import Cbor.Lemmas.Fund
/-!
# `Model.load` refines the abstract stack machine `Abs.run`

Simulation between the faithful value-level model of the builder (capacities, `size_t` countdowns, allocator
requests, the generated head decoder) and the abstract machine, for the oracle that grants every request
("no allocation refused"; libcbor's own overflow guards still apply and are the `okGuard` predicate: what
`_cbor_safe_to_multiply` grants and refuses is `Props.C20`, hence the import).
-/
namespace Lemmas.Refine
open Model Abs Spec

def ωT : Oracle := fun _ _ => true

/-- what libcbor's overflow guards allow, memory permitting: slot storage of a definite array / map must fit `size_t` -/
def okGuard : AllocOk
  | .array n => Gen._cbor_safe_to_multiply 8 (UInt64.ofNat n)
  | .map n => Gen._cbor_safe_to_multiply 16 (UInt64.ofNat n)
  | _ => true

/-- the frame of the abstract machine that a frame of the model stands for -/
def absF : Model.Frame → Abs.Frame
  | ⟨.arrD _ xs, sub⟩ => .arr sub.toNat xs
  | ⟨.arrI _ xs, _⟩ => .arrI xs
  | ⟨.mapD _ kvs key, sub⟩ => .map sub.toNat kvs key
  | ⟨.mapI _ kvs key, _⟩ => .mapI kvs key
  | ⟨.tag n _, _⟩ => .tag n
  | ⟨.bstrI _ cs, _⟩ => .bstr cs
  | ⟨.tstrI _ cs, _⟩ => .tstr cs

/-- what the model's own bookkeeping (capacity, countdown, key/value parity) satisfies between two heads; `B` bounds
the number of members collected so far -/
def FI (B : Nat) : Model.Frame → Prop
  | ⟨.arrD alloc xs, sub⟩ => sub.toNat ≥ 1 ∧ xs.length + sub.toNat = alloc
  | ⟨.arrI alloc xs, _⟩ => xs.length ≤ alloc ∧ alloc ≤ 2 * xs.length ∧ xs.length ≤ B
  | ⟨.mapD alloc kvs key, sub⟩ =>
      sub.toNat ≥ 1 ∧ (key.isSome ↔ sub.toNat % 2 = 1) ∧
      2 * kvs.length + (if key.isSome then 1 else 0) + sub.toNat = 2 * alloc ∧ alloc < 2 ^ 60
  | ⟨.mapI alloc kvs key, sub⟩ =>
      sub = (if key.isSome then 1 else 0) ∧
      kvs.length + (if key.isSome then 1 else 0) ≤ alloc ∧ alloc ≤ 2 * (kvs.length + (if key.isSome then 1 else 0)) ∧
      kvs.length ≤ B
  | ⟨.tag _ _, sub⟩ => sub = 1
  | ⟨.bstrI cap cs, _⟩ => cs.length ≤ cap ∧ cap ≤ 2 * cs.length ∧ cs.length ≤ B
  | ⟨.tstrI cap cs, _⟩ => cs.length ≤ cap ∧ cap ≤ 2 * cs.length ∧ cs.length ≤ B

def Inv (B : Nat) (ms : List Model.Frame) : Prop := ∀ m ∈ ms, FI B m

theorem FI.mono {B B' : Nat} (h : B ≤ B') {m : Model.Frame} (hm : FI B m) : FI B' m := by
  obtain ⟨it, sub⟩ := m
  cases it <;> simp only [FI] at hm ⊢
  all_goals first | exact hm | omega | exact ⟨hm.1, by omega⟩

theorem Inv.mono {B B' : Nat} (h : B ≤ B') {ms : List Model.Frame} (hs : Inv B ms) : Inv B' ms :=
  fun m hm => (hs m hm).mono h

/-- a context between two heads: flags clear, nothing delivered yet -/
structure Clean (c : Ctx) : Prop where
  cf : c.creationFailed = false
  se : c.syntaxError = false
  fl : c.fault = false
  rt : c.root = none

theorem Clean.reqs {c : Ctx} (h : Clean c) (n : Nat) : Clean { c with reqs := n } := ⟨h.cf, h.se, h.fl, h.rt⟩
theorem Clean.stack {c : Ctx} (h : Clean c) (s : List Model.Frame) : Clean { c with stack := s } := ⟨h.cf, h.se, h.fl, h.rt⟩

/-- outcome of the model after one head, against the abstract outcome -/
def OutR (B : Nat) (c : Ctx) : Abs.Out → Prop
  | .cont s => Clean c ∧ s = c.stack.map absF ∧ Inv B c.stack
  | .done x => c.stack = [] ∧ c.root = some x ∧ c.creationFailed = false ∧ c.syntaxError = false ∧ c.fault = false
  | .syn => c.syntaxError = true ∧ c.creationFailed = false ∧ c.fault = false
  | .mem => c.creationFailed = true ∧ c.fault = false

theorem OutR.cons {B : Nat} {c : Ctx} {m : Model.Frame} {rest : List Model.Frame} (hc : Clean c) (hst : c.stack = m :: rest)
    (hm : FI B m) (hrest : Inv B rest) : OutR B c (.cont (absF m :: rest.map absF)) :=
  ⟨hc, by rw [hst]; rfl, by rw [hst]; exact List.forall_mem_cons.mpr ⟨hm, hrest⟩⟩

theorem mul_guard (a b : Nat) (h : a * b < 2 ^ 63) (ha : a < 2 ^ 64) (hb : b < 2 ^ 64) :
    Gen._cbor_safe_to_multiply (UInt64.ofNat a) (UInt64.ofNat b) = true :=
  Props.C20.C20_mul_complete_half _ _ (by rw [ofNat_toNat_small a ha, ofNat_toNat_small b hb]; exact h)

theorem alloc_T (c : Ctx) (b : Nat) : c.alloc ωT b = (true, { c with reqs := c.reqs + 1 }) := rfl

theorem allocMultiple_T (c : Ctx) (sz cnt : Nat) (h : sz * cnt < 2 ^ 63) (h1 : sz < 2 ^ 64) (h2 : cnt < 2 ^ 64) :
    c.allocMultiple ωT sz cnt = (true, { c with reqs := c.reqs + 1 }) := by
  simp [Ctx.allocMultiple, mul_guard sz cnt h h1 h2, alloc_T]

theorem growAlloc_T (c : Ctx) (elt alloc : Nat) (he : elt ≤ 16) (h : alloc < 2 ^ 57) :
    c.growAlloc ωT elt alloc = (true, { c with reqs := c.reqs + 1 }) := by
  have hg : grow alloc ≤ 2 * alloc + 1 := by unfold grow growth; split <;> omega
  have e1 : elt * grow alloc < 2 ^ 63 := by
    calc elt * grow alloc ≤ 16 * (2 * alloc + 1) := Nat.mul_le_mul he hg
      _ < 2 ^ 63 := by omega
  have g2 : Gen._cbor_safe_to_multiply (UInt64.ofNat growth) (UInt64.ofNat alloc) = true :=
    mul_guard 2 alloc (by omega) (by omega) (by omega)
  simp only [Ctx.growAlloc, g2, if_true]
  exact allocMultiple_T c elt (grow alloc) e1 (by omega) (by omega)

theorem grow_bounds (cap n : Nat) (h1 : n = cap) : n + 1 ≤ grow cap ∧ grow cap ≤ 2 * (n + 1) := by
  unfold grow growth; split <;> omega

theorem grown_T (c : Ctx) (elt al : Nat) (f : Model.Frame) (rest : List Model.Frame) (he : elt ≤ 16) (h : al < 2 ^ 57) :
    c.grown ωT elt al f rest = { c with stack := f :: rest, reqs := c.reqs + 1 } := by
  simp only [Ctx.grown, growAlloc_T c elt al he h, if_true]

/-- What a frame of the model does with an item is what the frame it stands for does with it.  Between two heads no
assertion fails and no definite container is short of a slot; a growth request is one that `growAlloc_T` grants. -/
theorem take_sim (B : Nat) (hB : B < 2 ^ 56) (x : Item) {top : Model.Frame} (s : List Abs.Frame) (h : FI B top) :
    match top.take x with
    | .bad | .full => False
    | .syn => deliver x (absF top :: s) = .syn
    | .put f => FI (B + 1) f ∧ deliver x (absF top :: s) = .cont (absF f :: s)
    | .grow elt al f => elt ≤ 16 ∧ al < 2 ^ 57 ∧ FI (B + 1) f ∧ deliver x (absF top :: s) = .cont (absF f :: s)
    | .done it => deliver x (absF top :: s) = deliver it.finish s := by
  obtain ⟨it, sub⟩ := top
  cases it <;> simp only [FI] at h
  case arrD al xs =>
    have hp := u64_pred_toNat sub h.1
    have hle : sub.toNat ≤ 1 ↔ sub.toNat = 1 := by omega
    by_cases h1 : sub.toNat = 1 <;>
      simp [Frame.take, absF, deliver, FI, PItem.finish, hle, h1, hp, show ¬ sub.toNat = 0 by omega, show ¬ al ≤ xs.length by omega]
    omega
  case arrI al xs =>
    have := grow_bounds al xs.length
    by_cases hg : al ≤ xs.length <;> simp [Frame.take, absF, deliver, FI, szPtr, hg] <;> omega
  case mapD al kvs key =>
    obtain ⟨hsub, hkey, hal, ha60⟩ := h
    have hp := u64_pred_toNat sub hsub
    have hle : sub.toNat ≤ 1 ↔ sub.toNat = 1 := by omega
    cases key with
    | some k =>
      simp only [Option.isSome_some, if_true, true_iff] at hal hkey
      by_cases h1 : sub.toNat = 1 <;> simp [Frame.take, absF, deliver, FI, PItem.finish, hle, h1, hp, hkey]
      omega
    | none =>
      simp only [Option.isSome_none, Bool.false_eq_true, if_false, false_iff] at hal hkey
      simp [Frame.take, absF, deliver, FI, hp, hkey, show ¬ al ≤ kvs.length by omega, show ¬ sub.toNat = 0 by omega]
      omega
  case mapI al kvs key =>
    obtain ⟨rfl, h1, h2, h3⟩ := h
    have := grow_bounds al kvs.length
    cases key with
    | some k => simp [Frame.take, absF, deliver, FI] at h1 h2 ⊢; omega
    | none => by_cases hg : al ≤ kvs.length <;> simp [Frame.take, absF, deliver, FI, szPair, hg] at h1 h2 ⊢ <;> omega
  case tag n xo => subst h; rfl
  all_goals rfl

theorem append_sim (B : Nat) (hB : B < 2 ^ 56) :
    ∀ (ms : List Model.Frame) (x : Item) (c : Ctx) (fuel : Nat), c.stack = ms → Clean c → Inv B ms → fuel ≥ ms.length + 1 →
      OutR (B + 1) (append ωT fuel x c) (deliver x (ms.map absF)) := by
  intro ms
  induction ms with
  | nil =>
    intro x c fuel hst hc _ hf
    obtain ⟨fuel, rfl⟩ : ∃ k, fuel = k + 1 := ⟨fuel - 1, by omega⟩
    rw [append_nil ωT fuel x hst]
    exact ⟨hst, rfl, hc.cf, hc.se, hc.fl⟩
  | cons top rest ih =>
    intro x c fuel hst hc hs hf
    obtain ⟨fuel, rfl⟩ : ∃ k, fuel = k + 1 := ⟨fuel - 1, by simp at hf; omega⟩
    obtain ⟨hfr, hrest⟩ := List.forall_mem_cons.mp hs
    have replace : ∀ (m : Model.Frame) (n : Nat), FI (B + 1) m →
        OutR (B + 1) { c with stack := m :: rest, reqs := n } (.cont (absF m :: rest.map absF)) :=
      fun m n h => OutR.cons ((hc.stack _).reqs n) rfl h (Inv.mono (by omega) hrest)
    have ht := take_sim B hB x (rest.map absF) hfr
    rw [append_cons ωT fuel x hst, List.map_cons]
    revert ht
    cases top.take x <;> intro ht
    case bad | full => exact ht.elim
    case syn => rw [ht]; exact ⟨rfl, hc.cf, hc.fl⟩
    case put f => rw [ht.2]; exact replace f c.reqs ht.1
    case grow elt al f =>
      show OutR _ (c.grown ωT elt al f rest) _
      rw [ht.2.2.2, grown_T c elt al f rest ht.1 ht.2.1]; exact replace f _ ht.2.2.1
    -- a completed definite container or tag goes to the rest of the stack
    case done it => rw [ht]; exact ih _ _ fuel rfl (hc.stack rest) hrest (by simp at hf; omega)

theorem scalar_sim (B : Nat) (hB : B < 2 ^ 56) (c : Ctx) (extra : Nat) (x : Item) (hc : Clean c) (hs : Inv B c.stack) :
    OutR (B + 1) (scalar ωT c extra x) (deliver x (c.stack.map absF)) := by
  simp only [scalar, alloc_T, if_true, fuelOf]
  exact append_sim B hB _ x _ _ rfl (hc.reqs _) hs (Nat.le_refl _)

theorem push_sim (B : Nat) (L : Nat) (c : Ctx) (it : PItem) (sub : UInt64) (hc : Clean c) (hs : Inv B c.stack)
    (hL : c.stack.length ≤ L) (hfr : FI (B + 1) ⟨it, sub⟩) :
    OutR (B + 1) (pushFrame ωT L c it sub) (push L (absF ⟨it, sub⟩) (c.stack.map absF)) := by
  simp only [pushFrame, push, List.length_map]
  by_cases h : c.stack.length = L
  · rw [if_pos h, if_pos (show c.stack.length ≥ L by omega)]
    exact ⟨rfl, hc.fl⟩
  · rw [if_neg h, if_neg (show ¬ c.stack.length ≥ L by omega)]
    exact OutR.cons ((hc.reqs _).stack _) rfl hfr (hs.mono (by omega))

abbrev getOf (src : Array UInt8) : Nat → UInt8 := fun i => src.getD i 0

theorem bytesOf_slice (src : Array UInt8) (o n : Nat) : bytesOf src o n = slice (getOf src) o n := rfl

/-- a definite string: a chunk if the top frame is a chunked string of its kind, else an item like any other -/
theorem string_sim (B : Nat) (hB : B < 2 ^ 56) (L : Nat) (get : Nat → UInt8) (p o n : Nat) (c : Ctx) (isText : Bool)
    (hc : Clean c) (hs : Inv B c.stack) :
    OutR (B + 1) (stringCb ωT c isText (slice get (p + o) n))
      (stepTok L okGuard get p (if isText then .text o n else .bytes o n) (c.stack.map absF)) := by
  obtain ⟨stack, root, cf, se, reqs, fault⟩ := c
  obtain ⟨hcf, hse, hfl, hrt⟩ := hc
  simp only at hcf hse hfl hrt hs
  subst hcf hse hfl hrt
  simp only [stringCb, alloc_T, Bool.not_true, Bool.false_eq_true, if_false]
  have fall : ∀ (x : Item), OutR (B + 1)
      (append ωT (stack.length + 1) x
        { stack := stack, root := none, creationFailed := false, syntaxError := false, reqs := reqs + 1 + 1, fault := false })
      (deliver x (stack.map absF)) :=
    fun x => append_sim B hB _ x _ _ rfl ⟨rfl, rfl, rfl, rfl⟩ hs (Nat.le_refl _)
  cases stack with
  | nil => cases isText <;> simpa [fuelOf, stepTok, okGuard] using fall _
  | cons top rest =>
    obtain ⟨hfr, hrest⟩ := List.forall_mem_cons.mp hs
    obtain ⟨it, sub⟩ := top
    cases it <;> cases isText
    case bstrI.false cap cs | tstrI.true cap cs =>
      simp only [FI] at hfr
      simp only [stepTok, okGuard, absF, List.map_cons, Bool.not_true, Bool.false_eq_true, if_false, if_true]
      by_cases hg : cs.length = cap
      · simp only [hg, if_true, growAlloc_T _ szPtr cap (by decide) (by omega)]
        have gb := grow_bounds cap cs.length hg
        refine ⟨⟨rfl, rfl, rfl, rfl⟩, rfl, List.forall_mem_cons.mpr ⟨?_, Inv.mono (Nat.le_succ B) hrest⟩⟩
        simp only [FI, List.length_append, List.length_singleton]; omega
      · simp only [hg, if_false]
        refine ⟨⟨rfl, rfl, rfl, rfl⟩, rfl, List.forall_mem_cons.mpr ⟨?_, Inv.mono (Nat.le_succ B) hrest⟩⟩
        simp only [FI, List.length_append, List.length_singleton]; omega
    all_goals simpa [fuelOf, stepTok, okGuard, absF] using fall _

/-- the start of a definite array or map, once the item and its slots are allocated: pushed as a frame if it expects
members, else complete at once -/
theorem start_sim (B : Nat) (hB : B < 2 ^ 56) (L : Nat) (c : Ctx) (n : UInt64) (it : PItem) (sub : UInt64) (x : Item)
    (a : Abs.Frame) (hc : Clean c) (hs : Inv B c.stack) (hL : c.stack.length ≤ L)
    (hfr : n.toNat ≠ 0 → FI (B + 1) ⟨it, sub⟩ ∧ absF ⟨it, sub⟩ = a) :
    OutR (B + 1) (if n > 0 then pushFrame ωT L c it sub else append ωT (fuelOf c) x c)
      (if n.toNat = 0 then deliver x (c.stack.map absF) else push L a (c.stack.map absF)) := by
  by_cases hn : n.toNat = 0
  · rw [if_neg (fun h => (u64_pos_iff n).mp h hn), if_pos hn]
    exact append_sim B hB _ x _ _ rfl hc hs (Nat.le_refl _)
  · rw [if_pos ((u64_pos_iff n).mpr hn), if_neg hn, ← (hfr hn).2]
    exact push_sim B L _ it sub hc hs hL (hfr hn).1

theorem break_sim (B : Nat) (hB : B < 2 ^ 56) (L : Nat) (get : Nat → UInt8) (p : Nat) (c : Ctx)
    (hc : Clean c) (hs : Inv B c.stack) :
    OutR (B + 1) (breakCb ωT c) (stepTok L okGuard get p .brk (c.stack.map absF)) := by
  obtain ⟨stack, root, cf, se, reqs, fault⟩ := c
  obtain ⟨hcf, hse, hfl, hrt⟩ := hc
  simp only at hcf hse hfl hrt hs
  subst hcf hse hfl hrt
  cases stack with
  | nil => simp [breakCb, stepTok, okGuard, OutR]
  | cons top rest =>
    obtain ⟨hfr, hrest⟩ := List.forall_mem_cons.mp hs
    obtain ⟨it, sub⟩ := top
    have app : ∀ x, OutR (B + 1)
        (append ωT (rest.length + 1 + 1) x
          { stack := rest, root := none, creationFailed := false, syntaxError := false, reqs := reqs, fault := false })
        (deliver x (rest.map absF)) :=
      fun x => append_sim B hB _ x _ _ rfl ⟨rfl, rfl, rfl, rfl⟩ hrest (by omega)
    cases it <;> simp only [FI] at hfr
    case arrD | mapD | tag => simp [breakCb, stepTok, okGuard, absF, OutR]
    case arrI | bstrI | tstrI => simpa [breakCb, fuelOf, PItem.finish, stepTok, okGuard, absF] using app _
    case mapI alloc kvs key =>
      obtain ⟨rfl, _⟩ := hfr
      cases key with
      | none => simpa [breakCb, fuelOf, PItem.finish, stepTok, okGuard, absF] using app _
      | some k => simp [breakCb, stepTok, okGuard, absF, OutR]

theorem callback_sim (B : Nat) (hB : B < 2 ^ 56) (L : Nat) (src : Array UInt8) (read : Nat) (c : Ctx)
    (e : Gen.Event) (tok : Tok) (hc : Clean c) (hs : Inv B c.stack) (hL : c.stack.length ≤ L)
    (hm : tokMatch read e tok = true) (hp : ∀ o pl, tok.payload = some (o, pl) → 1 ≤ o ∧ read + o + pl ≤ src.size) :
    OutR (B + 1) (callback ωT L src c e) (stepTok L okGuard (getOf src) read tok (c.stack.map absF)) := by
  cases e
  case float2 f =>
    obtain ⟨h, rfl, rfl, _⟩ := tokMatch_float2.mp hm
    simp only [callback, stepTok, okGuard, Bool.not_true, Bool.false_eq_true, if_false, decodeHalf_spec h]
    exact scalar_sim B hB c 4 _ hc hs
  all_goals (
    obtain rfl := (tokMatch_toTok (by simp)).mp hm
    simp only [toTok] at hp ⊢)
  case byte_string o l =>
    have hpp := hp (o - read) l.toNat (by simp [Tok.payload])
    have := string_sim B hB L (getOf src) read (o - read) l.toNat c false hc hs
    rw [show read + (o - read) = o by omega] at this
    simpa only [callback, bytesOf_slice, show o + l.toNat ≤ src.size by omega, if_true, Bool.false_eq_true, if_false] using this
  case string o l =>
    have hpp := hp (o - read) l.toNat (by simp [Tok.payload])
    have := string_sim B hB L (getOf src) read (o - read) l.toNat c true hc hs
    rw [show read + (o - read) = o by omega] at this
    simpa only [callback, bytesOf_slice, show o + l.toNat ≤ src.size by omega, if_true] using this
  case array_start n =>
    simp only [callback, stepTok, arrayStart, alloc_T, Bool.not_true, Bool.false_eq_true, if_false, Ctx.allocMultiple, okGuard,
      szPtr, UInt64.ofNat_toNat]
    rw [show UInt64.ofNat 8 = (8 : UInt64) from rfl]
    cases hg : Gen._cbor_safe_to_multiply 8 n with
    | false => exact ⟨rfl, hc.fl⟩
    | true =>
      simp only [if_true, Bool.not_true, Bool.false_eq_true, if_false]
      exact start_sim B hB L _ n _ n _ _ ((hc.reqs _).reqs _) hs hL (fun hn => ⟨by simp only [FI, List.length_nil]; omega, rfl⟩)
  case map_start n =>
    simp only [callback, stepTok, mapStart, alloc_T, Bool.not_true, Bool.false_eq_true, if_false, Ctx.allocMultiple, okGuard,
      szPair, UInt64.ofNat_toNat]
    rw [show UInt64.ofNat 16 = (16 : UInt64) from rfl]
    cases hg : Gen._cbor_safe_to_multiply 16 n with
    | false => exact ⟨rfl, hc.fl⟩
    | true =>
      simp only [if_true, Bool.not_true, Bool.false_eq_true, if_false]
      have hbound := Props.C20.C20_mul_sound 16 n hg
      rw [show (16 : UInt64).toNat = 16 from rfl] at hbound
      have hm : (n * 2).toNat = 2 * n.toNat := by rw [UInt64.toNat_mul]; simp; omega
      exact start_sim B hB L _ n _ (n * 2) _ _ ((hc.reqs _).reqs _) hs hL
        (fun hn => ⟨by simp [FI, hm]; omega, by simp only [absF, hm]⟩)
  case indef_break =>
    simp only [callback]
    exact break_sim B hB L _ read c hc hs
  case byte_string_start =>
    simp only [callback, stepTok, okGuard, Bool.not_true, Bool.false_eq_true, if_false, indefString, alloc_T]
    exact push_sim B L _ _ _ ((hc.reqs _).reqs _) hs hL (by simp [FI])
  case string_start =>
    simp only [callback, stepTok, okGuard, Bool.not_true, Bool.false_eq_true, if_false, indefString, alloc_T]
    exact push_sim B L _ _ _ ((hc.reqs _).reqs _) hs hL (by simp [FI])
  case indef_array_start =>
    simp only [callback, stepTok, okGuard, Bool.not_true, Bool.false_eq_true, if_false, indefContainer, alloc_T]
    exact push_sim B L _ _ _ (hc.reqs _) hs hL (by simp [FI])
  case indef_map_start =>
    simp only [callback, stepTok, okGuard, Bool.not_true, Bool.false_eq_true, if_false, indefContainer, alloc_T]
    exact push_sim B L _ _ _ (hc.reqs _) hs hL (by simp [FI])
  case tag v =>
    simp only [callback, stepTok, okGuard, Bool.not_true, Bool.false_eq_true, if_false, tagCb, alloc_T]
    exact push_sim B L _ _ _ (hc.reqs _) hs hL (by simp [FI])
  all_goals (
    simp only [callback, stepTok, okGuard, Bool.not_true, Bool.false_eq_true, if_false]
    exact scalar_sim B hB c _ _ hc hs)

theorem deliver_cont : ∀ (s : List Abs.Frame) (x : Item) (s' : List Abs.Frame), deliver x s = .cont s' →
    s' ≠ [] ∧ s'.length ≤ s.length := by
  intro s
  induction s with
  | nil => intro x s' h; simp [deliver] at h
  | cons a as ih =>
    intro x s' h
    have up : ∀ y, deliver y as = .cont s' → s' ≠ [] ∧ s'.length ≤ (a :: as).length :=
      fun y hy => ⟨(ih y s' hy).1, Nat.le_succ_of_le (ih y s' hy).2⟩
    rcases a with ⟨rem, xs⟩ | xs | ⟨rem, kvs, _ | k⟩ | ⟨kvs, _ | k⟩ | n | cs | cs <;> simp only [deliver] at h
    case arr | map.some =>
      split at h
      · exact up _ h
      · cases h; simp
    case tag => exact up _ h
    all_goals cases h <;> simp

theorem stepTok_cont {L : Nat} {okA : AllocOk} {get : Nat → UInt8} {p : Nat} {tok : Tok} {s s' : List Abs.Frame}
    (h : stepTok L okA get p tok s = .cont s') : s' ≠ [] ∧ (s.length ≤ L → s'.length ≤ L) := by
  have dl : ∀ x r, deliver x r = .cont s' → r.length ≤ s.length → s' ≠ [] ∧ (s.length ≤ L → s'.length ≤ L) :=
    fun x r hx hr => ⟨(deliver_cont r x s' hx).1, fun hL => by have := (deliver_cont r x s' hx).2; omega⟩
  have pu : ∀ f, push L f s = .cont s' → s' ≠ [] ∧ (s.length ≤ L → s'.length ≤ L) := by
    intro f hf; unfold push at hf; split at hf; cases hf; cases hf; simp; omega
  unfold stepTok at h
  split at h
  · cases h
  cases tok <;> simp only at h
  case bytes | text => split at h; cases h; simp; exact dl _ _ h (Nat.le_refl _)
  case array | map => split at h; exact dl _ _ h (Nat.le_refl _); exact pu _ h
  case brk => split at h <;> first | exact dl _ _ h (by simp) | cases h
  case tag | arrayStart | mapStart | bytesStart | textStart => exact pu _ h
  all_goals exact dl _ _ h (Nat.le_refl _)

theorem stepTok_len (L : Nat) (okA : AllocOk) (get : Nat → UInt8) (p : Nat) (tok : Tok) (s s' : List Abs.Frame)
    (h : stepTok L okA get p tok s = .cont s') (hL : s.length ≤ L) : s'.length ≤ L :=
  (stepTok_cont h).2 hL

def codeOf : Err → Code
  | .notEnough => .notEnough | .malformed => .malformed | .syntax => .syntax | .mem => .mem

/-- outcome of the model's load loop against an outcome of the reference decoder / abstract machine -/
def LoadRel (o : LoadOut) : Res Item → Prop
  | .ok x q => o.item = some x ∧ o.result = { code := .none, position := 0, read := q } ∧ o.fault = false
  | .err e p => o.item = none ∧ o.result = { code := codeOf e, position := p, read := p } ∧ o.fault = false

/-- `B ≤ read`: every member collected so far (`FI`) came with at least one byte read, so capacities stay below `2^57`, which
is what `growAlloc_T` asks for. -/
theorem loop_sim (src : Array UInt8) (hsz : src.size < 2 ^ 56) (L : Nat) :
    ∀ (fuel F : Nat) (c : Ctx) (read B : Nat), Clean c → Inv B c.stack → c.stack.length ≤ L →
      B ≤ read → fuel > src.size - read → F > src.size - read →
      LoadRel (loadLoop ωT L src fuel c read) (run L okGuard (getOf src) src.size F (c.stack.map absF) read) := by
  intro fuel
  induction fuel with
  | zero => intro F c read B _ _ _ _ hf; omega
  | succ fuel ih =>
    intro F c read B hc hs hL hB hf hF
    obtain ⟨F, rfl⟩ : ∃ k, F = k + 1 := ⟨F - 1, by omega⟩
    rw [run_succ]
    simp only [loadLoop]
    by_cases hgt : src.size > read
    · simp only [hgt, if_true]
      have hsd := sd_rel_nat src read (src.size - read) (by omega)
      rw [show headAt (getOf src) src.size read = decodeHead (Spec.getA src read) (src.size - read) from rfl]
      generalize Gen.cbor_stream_decode src read (UInt64.ofNat (src.size - read)) = d at hsd ⊢
      cases hd : decodeHead (Spec.getA src read) (src.size - read) with
      | nedata n =>
        obtain ⟨hst, _, hev, _⟩ := hsd.nedata hd
        simp only [hev, List.foldl_nil, hst, nedata_ne_finished, LoadRel, codeOf, if_false, if_true]
        exact ⟨trivial, trivial, hc.fl⟩
      | error =>
        obtain ⟨hst, _, _, hev⟩ := hsd.error hd
        simp only [hev, List.foldl_nil, hst, error_ne_finished, error_ne_nedata, LoadRel, codeOf, if_false]
        exact ⟨trivial, trivial, hc.fl⟩
      | ok tok l =>
        obtain ⟨h1, h2, _, e, h4, h5⟩ := hsd.ok hd
        have hok := decodeHead_ok hd
        have hcb := callback_sim B (by omega) L src read c e tok hc hs hL h5 (fun o pl hpl => by have := hok.2.2 o pl hpl; omega)
        simp only [h4, List.foldl_cons, List.foldl_nil, h1, if_true, h2]
        generalize callback ωT L src c e = c' at hcb ⊢
        cases hst : stepTok L okGuard (getOf src) read tok (c.stack.map absF) with
        | cont s' =>
          rw [hst] at hcb
          obtain ⟨hc', rfl, hs'⟩ := hcb
          obtain ⟨hne, hL'⟩ := stepTok_cont hst
          have hlen' : c'.stack.length > 0 := by
            cases hcs : c'.stack with
            | nil => rw [hcs] at hne; exact absurd rfl hne
            | cons a b => simp
          simp only [hc'.cf, hc'.se, Bool.false_eq_true, if_false, hlen', if_true, resume]
          exact ih F c' (read + l) (B + 1) hc' hs' (by simpa using hL' (by simpa using hL)) (by omega) (by omega) (by omega)
        | done x =>
          rw [hst] at hcb
          obtain ⟨h1', h2', h3', h4', h5'⟩ := hcb
          simp only [h3', h4', Bool.false_eq_true, if_false, h1', List.length_nil, Nat.lt_irrefl, gt_iff_lt, resume, LoadRel, h2', h5']
          exact ⟨trivial, trivial, by simp⟩
        | syn =>
          rw [hst] at hcb
          obtain ⟨h1', h2', h3'⟩ := hcb
          simp only [h1', h2', Bool.false_eq_true, if_false, if_true, resume, LoadRel, codeOf]
          exact ⟨trivial, trivial, h3'⟩
        | mem =>
          rw [hst] at hcb
          obtain ⟨h1', h2'⟩ := hcb
          simp only [h1', if_true, resume, LoadRel, codeOf]
          exact ⟨trivial, trivial, h2'⟩
    · simp only [hgt, if_false]
      rw [show headAt (getOf src) src.size read = .nedata 1 by
        unfold headAt; rw [show src.size - read = 0 by omega]; rfl]
      exact ⟨rfl, rfl, hc.fl⟩

/-- **`Model.load` = reference decoder.**  With an allocator that refuses nothing, for every buffer (shorter
than 2^56 bytes), every nesting limit `L` and whatever the caller left in the result struct: the model of
`cbor_load` returns exactly the item, byte count, error code and position that the RFC 8949 reference decoder
(`Spec.decode`, lazy reporting inside chunked strings, libcbor's size_t overflow guards as `okGuard`) assigns
to the buffer — and never reaches an assertion or an impossible state. -/
theorem load_eq (src : Array UInt8) (hsz : src.size < 2 ^ 56) (L : Nat) (r0 : LoadResult) :
    let o := Model.load ωT L r0 src
    match Spec.decode true L okGuard (getOf src) src.size with
    | .ok x n => o.item = some x ∧ o.result = { code := .none, position := 0, read := n } ∧ o.fault = false
    | .nodata => o.item = none ∧ o.result = { code := .noData, position := 0, read := 0 } ∧ o.fault = false
    | .fail e p => o.item = none ∧ o.result = { code := codeOf e, position := p, read := p } ∧ o.fault = false := by
  intro o
  rw [← Lemmas.Fund.abs_decode_eq (L := L) (okA := okGuard) (get := getOf src) (len := src.size) rfl]
  unfold Abs.decode
  by_cases h0 : src.size = 0
  · simp only [h0, if_true]
    simp [o, Model.load, h0]
  · simp only [h0, if_false]
    have h : LoadRel _ (run L okGuard (getOf src) src.size (src.size + 1) [] 0) :=
      loop_sim src hsz L (src.size + 1) (src.size + 1) {} 0 0 ⟨rfl, rfl, rfl, rfl⟩ (fun _ h => nomatch h) (Nat.zero_le _)
      (Nat.le_refl _) (by omega) (by omega)
    have ho : o = loadLoop ωT L src (src.size + 1) {} 0 := by simp [o, Model.load, h0]
    rw [ho]
    cases hr : run L okGuard (getOf src) src.size (src.size + 1) [] 0 with
    | ok x q => rw [hr] at h; exact h
    | err e p => rw [hr] at h; exact h

end Lemmas.Refine
