import Cbor.Props.C04
import Cbor.Lemmas.CopyFrame
/-!
# Acyclicity of containers is an invariant of clients that never insert an item into something reachable from it

`NoCycleRule st op` is the client rule: an operation that makes a container refer to an item is applied only when the
container is not reachable (`Reach`) from the item.  `acyclic_step`: every operation of the history language preserves
`Acyclic` under that rule, in a heap without dangling references (`ClosedAll`, which follows from `Counts`): a new cell gets
a rank of its own, which is safe only if no old cell already refers to its address.  Hence `C04_acyclic_run` and
`C04_nothing_left'`, which asks the per-step rule where `C04_nothing_left` asks `Acyclic` of the final state.
-/
namespace Heap
open Props.C04 (Acyclic)

inductive Reach (h : H) : Ref → Ref → Prop
  | refl (a : Ref) : Reach h a a
  | step {a x b : Ref} (c : Cell) (hg : h.get a = some c) (hx : x ∈ c.node.children) (hr : Reach h x b) : Reach h a b

theorem Reach.inv {h : H} (S : Ref → Prop) (hS : ∀ r c, S r → h.get r = some c → ∀ y ∈ c.node.children, S y)
    {a b : Ref} (hr : Reach h a b) : S a → S b := by
  induction hr with
  | refl a => exact id
  | step c hg hx _ ih => exact fun ha => ih (hS _ c ha hg _ hx)

theorem Reach.trans {h : H} {a b c : Ref} (h1 : Reach h a b) (h2 : Reach h b c) : Reach h a c := by
  induction h1 with
  | refl a => exact h2
  | step c hg hx _ ih => exact Reach.step c hg hx (ih h2)

/-- a decidable certificate for unreachability: a list of items closed under references that contains `x` but not `a` -/
def closedSet (h : H) (S : List Ref) : Bool :=
  S.all fun r => match h.get r with
    | some c => c.node.children.all fun y => S.contains y
    | none => true

theorem not_reach_of_closedSet {h : H} {x a : Ref} (S : List Ref) (hc : closedSet h S = true) (hx : S.contains x = true)
    (ha : S.contains a = false) : ¬ Reach h x a := by
  intro hr
  have := Reach.inv (h := h) (fun r => S.contains r = true) (fun r c hr hg y hy => by
    simp only [closedSet, List.all_eq_true] at hc
    have h1 := hc r (by simpa using hr)
    rw [hg] at h1
    simp only [List.all_eq_true] at h1
    exact h1 y hy) hr hx
  rw [ha] at this; cases this

/-- no dangling references beyond the end of the heap -/
def ClosedAll (h : H) : Prop := ∀ p c, h.get p = some c → ∀ x ∈ c.node.children, x < h.cells.length

theorem closedAll_iff {h : H} : ClosedAll h ↔ Closed h.cells.length h :=
  ⟨fun k r c _ hg => k r c hg, fun k p c hg => k p c (get_lt hg) hg⟩

theorem closedAll_of_counts {h : H} {o : Ref → Nat} (hc : Counts h o) : ClosedAll h := closedAll_iff.mpr (closed_of_counts hc)

theorem reach_lt {h : H} (hcl : ClosedAll h) {a b : Ref} (hr : Reach h a b) (ha : a < h.cells.length) : b < h.cells.length :=
  Reach.inv (fun r => r < h.cells.length) (fun r c _ hg y hy => hcl r c hg y hy) hr ha

theorem acyclic_congr {h h' : H} (e : h'.cells = h.cells) (hac : Acyclic h) : Acyclic h' := by
  obtain ⟨rank, hr⟩ := hac
  exact ⟨rank, fun r c hg => hr r c (by rw [← get_congr e]; exact hg)⟩

theorem closedAll_congr {h h' : H} (e : h'.cells = h.cells) (hcl : ClosedAll h) : ClosedAll h' :=
  fun p c hg x hx => by rw [e]; exact hcl p c (by rw [← get_congr e]; exact hg) x hx

/-- every live cell of `h'` was live in `h`, and refers only to what it referred to before — except that `a` may now
also refer to members of `xs` -/
def Sub (h h' : H) (a : Ref) (xs : List Ref) : Prop :=
  h'.cells.length = h.cells.length ∧
  ∀ r c', h'.get r = some c' → ∃ c, h.get r = some c ∧ ∀ y ∈ c'.node.children, y ∈ c.node.children ∨ (r = a ∧ y ∈ xs)

theorem Sub.of_cells {h h' : H} (e : h'.cells = h.cells) (a : Ref) (xs : List Ref) : Sub h h' a xs :=
  ⟨by rw [e], fun r c' hg => ⟨c', by rw [← get_congr e]; exact hg, fun _ hy => Or.inl hy⟩⟩

theorem Sub.trans {h h1 h2 : H} {a : Ref} {xs : List Ref} (s1 : Sub h h1 a xs) (s2 : Sub h1 h2 a xs) : Sub h h2 a xs :=
  ⟨s2.1.trans s1.1, fun r c2 hg => by
    obtain ⟨c1, g1, k1⟩ := s2.2 r c2 hg
    obtain ⟨c0, g0, k0⟩ := s1.2 r c1 g1
    refine ⟨c0, g0, fun y hy => ?_⟩
    rcases k1 y hy with e | e
    · exact k0 y e
    · exact Or.inr e⟩

theorem Sub.of_shrinks {h h' : H} (s : Shrinks h h') (a : Ref) (xs : List Ref) : Sub h h' a xs :=
  ⟨s.1, fun r c' hg => by
    obtain ⟨c, g, n, _⟩ := s.2.2 r c' hg
    exact ⟨c, g, fun y hy => Or.inl (by rw [← n]; exact hy)⟩⟩

theorem Sub.put {h : H} {r : Ref} {c c' : Cell} {a : Ref} {xs : List Ref} (hg : h.get r = some c)
    (hc : ∀ y ∈ c'.node.children, y ∈ c.node.children ∨ (r = a ∧ y ∈ xs)) : Sub h (h.put r (some c')) a xs :=
  ⟨by simp, fun r' c'' hg' => by
    rcases get_put_some hg' with ⟨rfl, e⟩ | ⟨_, e⟩
    · cases e; exact ⟨c, hg, hc⟩
    · exact ⟨c'', e, fun _ hy => Or.inl hy⟩⟩

theorem Sub.bad (h : H) (a : Ref) (xs : List Ref) : Sub h h.bad a xs := Sub.of_cells rfl a xs

theorem Sub.incref (h : H) (x : Ref) (a : Ref) (xs : List Ref) : Sub h (h.incref x) a xs := by
  unfold H.incref
  cases hg : h.get x with
  | none => exact Sub.bad h a xs
  | some c => exact Sub.put hg (fun y hy => Or.inl hy)

theorem Sub.decref {h h' : H} {a : Ref} {xs : List Ref} (s : Sub h h' a xs) (r : Ref) : Sub h (h'.decref r) a xs :=
  s.trans (Sub.of_shrinks (H.decref_shrinks h' r) a xs)

/-- Adding edges towards items that cannot reach the container keeps the graph acyclic: every ancestor of `a` is lifted
above the ranks of the inserted items. -/
theorem acyclic_sub {h h' : H} {a : Ref} {xs : List Ref} (hac : Acyclic h) (hn : ∀ x ∈ xs, ¬ Reach h x a)
    (s : Sub h h' a xs) : Acyclic h' := by
  obtain ⟨rank, hr⟩ := hac
  classical
  refine ⟨fun r => if Reach h r a then rank r + (xs.map rank).sum + 1 else rank r, fun r c' hg y hy => ?_⟩
  obtain ⟨c, g, k⟩ := s.2 r c' hg
  rcases k y hy with e | ⟨e, hyx⟩
  · have hlt := hr r c g y e
    by_cases hya : Reach h y a
    · have hra : Reach h r a := Reach.step c g e hya
      simp only [hya, hra, if_true]; omega
    · simp only [hya, if_false]
      split <;> omega
  · subst e
    have hra : Reach h r r := Reach.refl r
    have hya : ¬ Reach h y r := hn y hyx
    have := list_le_sum rank xs y hyx
    simp only [hra, hya, if_true, if_false]; omega

theorem closedAll_sub {h h' : H} {a : Ref} {xs : List Ref} (hcl : ClosedAll h) (hn : ∀ x ∈ xs, x < h.cells.length)
    (s : Sub h h' a xs) : ClosedAll h' := fun p c' hg y hy => by
  obtain ⟨c, g, k⟩ := s.2 p c' hg
  rw [s.1]
  rcases k y hy with e | ⟨_, e⟩
  · exact hcl p c g y e
  · exact hn y e

theorem acyclic_shrinks {h h' : H} (hac : Acyclic h) (s : Shrinks h h') : Acyclic h' :=
  acyclic_sub (a := 0) (xs := []) hac (fun _ hx => by cases hx) (Sub.of_shrinks s 0 [])

theorem closedAll_shrinks {h h' : H} (hcl : ClosedAll h) (s : Shrinks h h') : ClosedAll h' :=
  closedAll_sub (a := 0) (xs := []) hcl (fun _ hx => by cases hx) (Sub.of_shrinks s 0 [])

theorem Relink.sub {h h' : H} {a : Ref} {del add : List Ref} (l : Relink h a del add h') : Sub h h' a add := by
  obtain ⟨h1, c, c', e, _, hg, _, hch, rfl⟩ := l
  refine foldl_inv (P := fun h' => Sub h h' a add) (G := fun _ => True) H.incref (fun _ x s _ => s.trans (Sub.incref _ x a add))
    add _ ?_ (fun _ _ => trivial)
  refine (Sub.of_cells e a add).trans (Sub.put ((get_congr e a).trans hg) fun y hy => ?_)
  rcases mem_of_relinked hch (List.mem_append_left _ hy) with m | m
  · exact Or.inl m
  · exact Or.inr ⟨rfl, m⟩

theorem LinkPost.sub {h : H} {a : Ref} {del xs : List Ref} {r : Bool × H} (l : LinkPost h a del xs r) : Sub h r.2 a xs := by
  obtain ⟨ok, h'⟩ := r
  cases ok with
  | false => exact Sub.of_cells l.1 a xs
  | true =>
    obtain ⟨h1, l, rfl⟩ := l
    exact foldl_inv (P := fun h' => Sub h h' a xs) (G := fun _ => True) H.decref (fun _ x s _ => s.decref x) del _ l.sub
      (fun _ _ => trivial)

theorem GetPost.sub {h : H} {r : Option Ref × H} (g : GetPost h r) (b : Ref) (xs : List Ref) : Sub h r.2 b xs := by
  obtain ⟨o, h'⟩ := r
  cases o with
  | none => exact Sub.of_cells g.1 b xs
  | some x => cases g; exact Sub.incref h x b xs

theorem tagSet_sub (h : H) (t x : Ref) : Sub h (tagSet h t x).2 t [x] := by
  rcases tagSet_post h t x with ⟨old, h', e, l⟩ | e <;> rw [e]
  · exact l.sub
  · exact Sub.bad h _ _

def WF (h : H) : Prop := Acyclic h ∧ ClosedAll h

theorem WF.closed {h : H} (hw : WF h) : Closed h.cells.length h := closedAll_iff.mp hw.2

theorem wf_congr {h h' : H} (e : h'.cells = h.cells) (hw : WF h) : WF h' := ⟨acyclic_congr e hw.1, closedAll_congr e hw.2⟩

theorem wf_shrinks {h h' : H} (hw : WF h) (s : Shrinks h h') : WF h' := ⟨acyclic_shrinks hw.1 s, closedAll_shrinks hw.2 s⟩

theorem wf_decref {h : H} (hw : WF h) (r : Ref) : WF (h.decref r) := wf_shrinks hw (H.decref_shrinks h r)

/-- a new cell that refers to existing items only: it is ranked above them -/
theorem wf_snoc {h h' : H} {c : Cell} (e : h'.cells = h.cells ++ [some c]) (hw : WF h)
    (hc : ∀ y ∈ c.node.children, y < h.cells.length) : WF h' := by
  obtain ⟨⟨rank, hr⟩, hcl⟩ := hw
  have hl : h'.cells.length = h.cells.length + 1 := by rw [e]; simp
  refine ⟨⟨fun r => if r = h.cells.length then (c.node.children.map rank).sum + 1 else rank r, fun r c' hg y hy => ?_⟩,
    fun p c' hg y hy => ?_⟩
  · rcases get_snoc_some e hg with ⟨rfl, rfl⟩ | ⟨er, g⟩
    · have h1 := hc y hy
      have h2 := list_le_sum rank _ y hy
      simp only [Nat.ne_of_lt h1, if_false, if_true]; omega
    · simp only [Nat.ne_of_lt (hcl r c' g y hy), er, if_false]
      exact hr r c' g y hy
  · rw [hl]
    rcases get_snoc_some e hg with ⟨_, rfl⟩ | ⟨_, g⟩
    · exact Nat.lt_succ_of_lt (hc y hy)
    · exact Nat.lt_succ_of_lt (hcl p c' g y hy)

theorem newPost_wf {n : Node} {h : H} {r : Option Ref × H} (hp : NewPost n h r) (hn : n.children = []) (hw : WF h) :
    WF r.2 ∧ h.cells.length ≤ r.2.cells.length ∧ ∀ y, r.1 = some y → y < r.2.cells.length := by
  obtain ⟨o, h'⟩ := r
  cases o with
  | none => exact ⟨wf_congr (hp.refused rfl).1 hw, Nat.le_of_eq (congrArg List.length (hp.refused rfl).1).symm, nofun⟩
  | some y =>
    obtain ⟨rfl, e, _⟩ := hp.granted
    have hl : h'.cells.length = h.cells.length + 1 := by rw [e]; simp
    exact ⟨wf_snoc e hw (by rw [hn]; nofun), Nat.le_of_lt_succ (by rw [hl]; omega), fun _ e => by cases e; exact hl ▸ Nat.lt_succ_self _⟩

theorem buildTag_acyclic (ω : Oracle) (h : H) (n : Nat) (x : Ref) (hw : WF h) (hx : ¬ Reach h x h.cells.length) :
    Acyclic (buildTag ω h n x).2 := by
  rcases buildTag_post ω h n x with ⟨h', e, hc, _⟩ | ⟨t, h1, h', e, hp, hl⟩ <;> rw [e]
  · exact acyclic_congr hc hw.1
  · obtain ⟨rfl, e, _⟩ := hp.granted
    refine acyclic_sub (wf_snoc e hw nofun).1 (fun y hy hr => ?_) hl.sub
    cases List.mem_singleton.mp hy
    -- nothing refers to the new tag, so only the tag itself reaches it
    refine Reach.inv (· ≠ h.cells.length) (fun r c hr hg z hz => ?_) hr (fun e => hx (e ▸ Reach.refl _)) rfl
    rcases get_snoc_some e hg with ⟨e1, _⟩ | ⟨_, g⟩
    · exact absurd e1 hr
    · exact Nat.ne_of_lt (hw.2 r c g z hz)

theorem buildTag_closed (ω : Oracle) (h : H) (n : Nat) (x : Ref) (hw : WF h) (hx : x < h.cells.length) :
    ClosedAll (buildTag ω h n x).2 ∧ h.cells.length ≤ (buildTag ω h n x).2.cells.length ∧
    ∀ y, (buildTag ω h n x).1 = some y → y < (buildTag ω h n x).2.cells.length := by
  rcases buildTag_post ω h n x with ⟨h', e, hc, _⟩ | ⟨t, h1, h', e, hp, hl⟩ <;> rw [e]
  · exact ⟨closedAll_congr hc hw.2, Nat.le_of_eq (congrArg List.length hc).symm, nofun⟩
  · obtain ⟨w1, l1, m1⟩ := newPost_wf hp rfl hw
    have s := hl.sub
    exact ⟨closedAll_sub w1.2 (fun y hy => by cases List.mem_singleton.mp hy; exact Nat.lt_of_lt_of_le hx l1) s, by rw [s.1]; exact l1, by rw [s.1]; exact m1⟩

/-! ### `cbor_load`: the tree `build` lays out refers to cells laid out before their container -/

theorem wf_new {h h0 : H} (hw : WF h) (l : h0.cells.length ≤ h.cells.length) (n : Node) (hn : ∀ y ∈ n.children, y < h.cells.length) :
    WF (h.new n).2 ∧ h0.cells.length ≤ (h.new n).2.cells.length ∧ (h.new n).1 < (h.new n).2.cells.length := by
  have hl := new_len h n
  exact ⟨wf_snoc rfl hw hn, by omega, by rw [hl]; exact Nat.lt_succ_self _⟩

theorem buildChunks_wf (t : Bool) : ∀ (cs : List (List UInt8)) (h : H), WF h →
    WF (buildChunks t cs h).2 ∧ h.cells.length ≤ (buildChunks t cs h).2.cells.length ∧
    ∀ r ∈ (buildChunks t cs h).1, r < (buildChunks t cs h).2.cells.length
  | [], h, hw => by simp only [buildChunks]; exact ⟨hw, Nat.le_refl _, nofun⟩
  | c :: cs, h, hw => by
    simp only [buildChunks]
    obtain ⟨w1, l1, m1⟩ := wf_new hw (Nat.le_refl _) (.str t c) nofun
    obtain ⟨w2, l2, m2⟩ := buildChunks_wf t cs _ w1
    refine ⟨w2, Nat.le_trans l1 l2, fun r hr => ?_⟩
    rcases List.mem_cons.mp hr with e | e
    · rw [e]; exact Nat.lt_of_lt_of_le m1 l2
    · exact m2 r e

mutual
theorem build_wf : ∀ (t : Spec.Item) (h : H), WF h →
    WF (build t h).2 ∧ h.cells.length ≤ (build t h).2.cells.length ∧ (build t h).1 < (build t h).2.cells.length
  | .uint _ _, h, hw | .negint _ _, h, hw | .bytes _, h, hw | .text _, h, hw
  | .simple _, h, hw | .half _, h, hw | .single _, h, hw | .double _, h, hw => by
    simp only [build]
    exact wf_new hw (Nat.le_refl _) _ nofun
  | .bytesI cs, h, hw | .textI cs, h, hw => by
    simp only [build]
    obtain ⟨w, l, m⟩ := buildChunks_wf _ cs h hw
    exact wf_new w l _ m
  | .array xs, h, hw | .arrayI xs, h, hw => by
    simp only [build]
    obtain ⟨w, l, m⟩ := buildList_wf xs h hw
    exact wf_new w l _ m
  | .map ps, h, hw | .mapI ps, h, hw => by
    simp only [build]
    obtain ⟨w, l, m⟩ := buildPairs_wf ps h hw
    exact wf_new w l _ (forall_flat.mpr m)
  | .tag n t, h, hw => by
    simp only [build]
    obtain ⟨w, l, m⟩ := build_wf t h hw
    exact wf_new w l _ (fun y hy => by cases List.mem_singleton.mp hy; exact m)
theorem buildList_wf : ∀ (ts : List Spec.Item) (h : H), WF h →
    WF (buildList ts h).2 ∧ h.cells.length ≤ (buildList ts h).2.cells.length ∧
    ∀ r ∈ (buildList ts h).1, r < (buildList ts h).2.cells.length
  | [], h, hw => by simp only [buildList]; exact ⟨hw, Nat.le_refl _, nofun⟩
  | t :: ts, h, hw => by
    simp only [buildList]
    obtain ⟨w1, l1, m1⟩ := build_wf t h hw
    obtain ⟨w2, l2, m2⟩ := buildList_wf ts _ w1
    refine ⟨w2, Nat.le_trans l1 l2, fun r hr => ?_⟩
    rcases List.mem_cons.mp hr with e | e
    · rw [e]; exact Nat.lt_of_lt_of_le m1 l2
    · exact m2 r e
theorem buildPairs_wf : ∀ (ps : List (Spec.Item × Spec.Item)) (h : H), WF h →
    WF (buildPairs ps h).2 ∧ h.cells.length ≤ (buildPairs ps h).2.cells.length ∧
    ∀ kv ∈ (buildPairs ps h).1, kv.1 < (buildPairs ps h).2.cells.length ∧ kv.2 < (buildPairs ps h).2.cells.length
  | [], h, hw => by simp only [buildPairs]; exact ⟨hw, Nat.le_refl _, nofun⟩
  | (k, v) :: ps, h, hw => by
    simp only [buildPairs]
    obtain ⟨w1, l1, m1⟩ := build_wf k h hw
    obtain ⟨w2, l2, m2⟩ := build_wf v _ w1
    obtain ⟨w3, l3, m3⟩ := buildPairs_wf ps _ w2
    refine ⟨w3, Nat.le_trans l1 (Nat.le_trans l2 l3), fun kv hkv => ?_⟩
    rcases List.mem_cons.mp hkv with e | e
    · rw [e]; exact ⟨Nat.lt_of_lt_of_le m1 (Nat.le_trans l2 l3), Nat.lt_of_lt_of_le m2 l3⟩
    · exact m3 kv e
end

theorem load_wf {h : H} (hw : WF h) (ω : Oracle) (L : Nat) (src : Array UInt8) : WF (h.load ω L src).2.2 := by
  unfold H.load
  simp only
  cases hi : (Model.load (fun i x => ω (h.reqs + i)) L { code := Model.Code.none, position := 0, read := 0 } src).item with
  | none => exact wf_congr rfl hw
  | some x =>
    have key : ∀ h0 : H, WF h0 → WF (build x h0).2 := fun h0 w => (build_wf x h0 w).1
    exact key _ (wf_congr rfl hw)

/-! ### `cbor_copy`: every link it makes goes from a container to an item created after it (or, for tags, to an item that
cannot know the tag yet) -/

theorem hdecref_len (h : H) (r : Ref) : (h.decref r).cells.length = h.cells.length := (H.decref_shrinks h r).1

/-- linking newer items `es` into an older container `res`: what is new reaches only what is new -/
theorem link_wf {N : Nat} {h0 h h' : H} {res : Ref} {es : List Ref} (hw : WF h) (hf : Fr N h0 h) (hres : res < N)
    (hes : ∀ e ∈ es, N ≤ e ∧ e < h.cells.length) (s : Sub h h' res es) : WF h' :=
  ⟨acyclic_sub hw.1 (fun e he hr => Nat.lt_irrefl _ (Nat.lt_of_lt_of_le hres
      (Reach.inv (fun r => N ≤ r) (fun _ _ hr hg => hf.new hr hg) hr (hes e he).1))) s,
   closedAll_sub hw.2 (fun e he => (hes e he).2) s⟩

mutual
theorem Copies.wf {ω : Oracle} {h : H} {r : Ref} {out : Option Ref × H} :
    Copies ω h r out → WF h → r < h.cells.length → WF out.2 ∧ ∀ r', out.1 = some r' → r' < out.2.cells.length
  | .bad _ _, hw, _ => ⟨wf_congr rfl hw, nofun⟩
  | .alloc _ hn hp _, hw, _ => have w := newPost_wf hp hn hw; ⟨w.1, w.2.2⟩
  | .members (c := c) hg hn hp k, hw, _ =>
    have w := newPost_wf hp hn hw
    k.wf w.1 (w.2.2 _ rfl) (fun y hy => Nat.lt_of_lt_of_le (hw.2 r c hg y hy) w.2.1)
  | .tag0 (c := c) (x := x) hg hc cx, hw, _ => cx.wf hw (hw.2 r c hg x (by simp [hc]))
  | .tag1 (c := c) (n := n) (x := x) (xc := xc) (h1 := h1) hg hc cx, hw, _ =>
    have ⟨w1, hxc⟩ := cx.wf hw (hw.2 r c hg x (by simp [hc, Node.children]))
    have hb := buildTag_closed ω h1 n xc w1 (hxc xc rfl)
    ⟨wf_decref ⟨buildTag_acyclic ω h1 n xc w1 (fun hr => Nat.lt_irrefl _ (reach_lt w1.2 hr (hxc xc rfl))), hb.1⟩ xc,
     fun r' e => by rw [hdecref_len]; exact hb.2.2 r' e⟩
theorem CopiesInto.wf {ω : Oracle} {h : H} {res : Ref} {xs : List Ref} {out : Option Ref × H} :
    CopiesInto ω h res xs out → WF h → res < h.cells.length → (∀ x ∈ xs, x < h.cells.length) →
      WF out.2 ∧ ∀ r', out.1 = some r' → r' < out.2.cells.length
  | .bad _ _ _, hw, _, _ => ⟨wf_congr rfl hw, nofun⟩
  | .nil _ _, hw, hres, _ => ⟨hw, fun _ e => by cases e; exact hres⟩
  | .item0 c, hw, _, hxs => ⟨wf_decref (c.wf hw (hxs _ (by simp))).1 res, nofun⟩
  | .item1 (e := e) c l, hw, hres, hxs =>
    have ⟨w1, he⟩ := c.wf hw (hxs _ (by simp))
    have ⟨f1, hn⟩ := c.fr hw.closed (Fr.refl _) (hxs _ (by simp))
    ⟨wf_decref (wf_decref (link_wf w1 f1 hres (by simpa using ⟨hn e rfl, he e rfl⟩) l.sub) e) res, nofun⟩
  | .item2 (e := e) (h1 := h1) (h2 := h2) c l k, hw, hres, hxs =>
    have ⟨w1, he⟩ := c.wf hw (hxs _ (by simp))
    have ⟨f1, hn⟩ := c.fr hw.closed (Fr.refl _) (hxs _ (by simp))
    have l3 : (h2.decref e).cells.length = h1.cells.length := (hdecref_len h2 e).trans l.sub.1
    k.wf (wf_decref (link_wf w1 f1 hres (by simpa using ⟨hn e rfl, he e rfl⟩) l.sub) e) (by rw [l3]; exact Nat.lt_of_lt_of_le hres f1.len)
      (fun y hy => by rw [l3]; exact Nat.lt_of_lt_of_le (hxs y (by simp [hy])) f1.len)
  | .pair0 (kc := kc) ck cv, hw, _, hxs =>
    have ⟨w1, _⟩ := ck.wf hw (hxs _ (by simp))
    have ⟨f1, _⟩ := ck.fr hw.closed (Fr.refl _) (hxs _ (by simp))
    ⟨wf_decref (wf_decref (cv.wf w1 (Nat.lt_of_lt_of_le (hxs _ (by simp)) f1.len)).1 res) kc, nofun⟩
  | .pair1 (kc := kc) (vc := vc) (h1 := h1) ck cv l, hw, hres, hxs =>
    have hv := hxs _ (List.mem_cons_of_mem _ List.mem_cons_self)
    have ⟨w1, hkc⟩ := ck.wf hw (hxs _ (by simp))
    have ⟨f1, hk⟩ := ck.fr hw.closed (Fr.refl _) (hxs _ (by simp))
    have ⟨w2, hvc⟩ := cv.wf w1 (Nat.lt_of_lt_of_le hv f1.len)
    have ⟨f2, hvn⟩ := cv.fr hw.closed f1 hv
    have w3 := link_wf w2 f2 hres (by simpa using ⟨⟨hk kc rfl, Nat.lt_of_lt_of_le (hkc kc rfl) (cv.fr w1.closed (Fr.refl _) (Nat.lt_of_lt_of_le hv f1.len)).1.len⟩,
      hvn vc rfl, hvc vc rfl⟩) l.sub
    ⟨wf_decref (wf_decref (wf_decref w3 res) kc) vc, nofun⟩
  | .pair2 (kc := kc) (vc := vc) (h1 := h1) (h2 := h2) (h3 := h3) ck cv l k, hw, hres, hxs =>
    have hv := hxs _ (List.mem_cons_of_mem _ List.mem_cons_self)
    have ⟨w1, hkc⟩ := ck.wf hw (hxs _ (by simp))
    have ⟨f1, hk⟩ := ck.fr hw.closed (Fr.refl _) (hxs _ (by simp))
    have ⟨w2, hvc⟩ := cv.wf w1 (Nat.lt_of_lt_of_le hv f1.len)
    have ⟨f2, hvn⟩ := cv.fr hw.closed f1 hv
    have w3 := link_wf w2 f2 hres (by simpa using ⟨⟨hk kc rfl, Nat.lt_of_lt_of_le (hkc kc rfl) (cv.fr w1.closed (Fr.refl _) (Nat.lt_of_lt_of_le hv f1.len)).1.len⟩,
      hvn vc rfl, hvc vc rfl⟩) l.sub
    have l3 : ((h3.decref kc).decref vc).cells.length = h2.cells.length := (hdecref_len _ vc).trans ((hdecref_len h3 kc).trans l.sub.1)
    k.wf (wf_decref (wf_decref w3 kc) vc) (by rw [l3]; exact Nat.lt_of_lt_of_le hres f2.len)
      (fun y hy => by rw [l3]; exact Nat.lt_of_lt_of_le (hxs y (by simp [hy])) f2.len)
end

theorem hcopy_wf (ω : Oracle) (h : H) (r : Ref) (hw : WF h) : WF (h.copy ω r).2 := by
  by_cases hr : r < h.cells.length
  · exact ((h.copy_paths ω r).wf hw hr).1
  · have : h.copy ω r = (none, h.bad) := by
      unfold H.copy H.copyFuel copy
      rw [get_none_of_ge h r (Nat.le_of_not_lt hr)]
    rw [this]; exact wf_congr rfl hw

/-- the container (second argument) is not reachable from the item (first argument); vacuous when a slot is empty —
such a call breaks another rule and changes nothing -/
def noReach (h : H) : Option Ref → Option Ref → Prop
  | some x, some a => ¬ Reach h x a
  | _, _ => True

/-- The client rule "containers are acyclic": an operation that makes a container refer to an item is applied only
when the container is not reachable from that item (in particular the item is not the container itself).  For
`buildTag` the container is the tag about to be created; in a heap without dangling references nothing can reach it
(`noCycleRule_buildTag`). -/
def NoCycleRule (st : St) : Op → Prop
  | .push a x => noReach st.h (st.slot x) (st.slot a)
  | .pushMove a x => noReach st.h (st.slot x) (st.slot a)
  | .set a _ x => noReach st.h (st.slot x) (st.slot a)
  | .replace a _ x => noReach st.h (st.slot x) (st.slot a)
  | .mapAdd m k v => noReach st.h (st.slot k) (st.slot m) ∧ noReach st.h (st.slot v) (st.slot m)
  | .chunk s c => noReach st.h (st.slot c) (st.slot s)
  | .tagSet t x _ => noReach st.h (st.slot x) (st.slot t)
  | .buildTag _ _ x => noReach st.h (st.slot x) (some st.h.cells.length)
  | _ => True

theorem acyclic_fresh (st : St) (s : Nat) (o : Option Ref) (h' : H) (hac : Acyclic h') : Acyclic (st.fresh s (o, h')).1.h :=
  acyclic_congr (Props.C04.fresh_cells st s o h') hac

theorem single_rule {h : H} {x a : Ref} (hn : ¬ Reach h x a) : ∀ y ∈ [x], ¬ Reach h y a := fun y hy => by
  simp only [List.mem_singleton] at hy; rw [hy]; exact hn

theorem no_rule {h : H} {a : Ref} : ∀ y ∈ ([] : List Ref), ¬ Reach h y a := fun _ hy => by cases hy

/-- Every operation of the history language — granted or refused, for every allocator oracle — keeps the
container graph acyclic, provided the client follows `NoCycleRule`.  (`ClosedAll`, no dangling references, is what lets an
allocation rank its new cell above everything: it follows from `Counts`, see `closedAll_of_counts`.) -/
theorem acyclic_step (ω : Oracle) (L : Nat) (st : St) (op : Op) (hac : Acyclic st.h) (hcl : ClosedAll st.h)
    (hrule : NoCycleRule st op) : Acyclic (step ω L st op).1.h := by
  have new : ∀ {n : Node} {r : Option Ref × H}, NewPost n st.h r → n.children = [] → Acyclic r.2 :=
    fun hp hn => (newPost_wf hp hn ⟨hac, hcl⟩).1.1
  cases op with
  | newInt s _ _ _ | newTag s _ | newCtrl s _ | newHalf s _ | newSingle s _ | newDouble s _ =>
    exact acyclic_fresh st s _ _ (new (new1_post ω st.h _) rfl)
  | newStr s _ _ | newStrI s _ => exact acyclic_fresh st s _ _ (new (new2_post ω st.h _) rfl)
  | newArr s d _ | newMap s d _ =>
    cases d
    · exact acyclic_fresh st s _ _ (new (new1_post ω st.h _) rfl)
    · exact acyclic_fresh st s _ _ (new (newMulti_post ω st.h _ _ _) rfl)
  | buildTag s n x =>
    simp only [step]
    split
    · rename_i rx hx
      simp only [NoCycleRule, hx, noReach] at hrule
      exact acyclic_fresh st s _ _ (buildTag_acyclic ω st.h n rx ⟨hac, hcl⟩ hrule)
    · exact acyclic_congr rfl hac
  | push a x =>
    simp only [step]
    split
    · rename_i ra rx ha hx
      simp only [NoCycleRule, ha, hx, noReach] at hrule
      exact acyclic_sub hac (single_rule hrule) (arrPush_post ω st.h ra rx).sub
    · exact acyclic_congr rfl hac
  | pushMove a x =>
    simp only [step]
    split
    · rename_i ra rx ha hx
      simp only [NoCycleRule, ha, hx, noReach] at hrule
      have hq := acyclic_sub hac (single_rule hrule) (arrPush_post ω st.h ra rx).sub
      split
      · rename_i h2 hpp
        rw [hpp] at hq
        split
        · rename_i c hg
          exact acyclic_shrinks hq (shrinks_put_dec h2 rx c hg _ (Nat.sub_le _ _))
        · exact acyclic_congr rfl hq
      · rename_i h2 hpp
        rw [hpp] at hq; exact hq
    · exact acyclic_congr rfl hac
  | set a i x =>
    simp only [step]
    split
    · rename_i ra rx ha hx
      simp only [NoCycleRule, ha, hx, noReach] at hrule
      obtain ⟨_, l⟩ := arrSet_post ω st.h ra i rx
      exact acyclic_sub hac (single_rule hrule) l.sub
    · exact acyclic_congr rfl hac
  | replace a i x =>
    simp only [step]
    split
    · rename_i ra rx ha hx
      simp only [NoCycleRule, ha, hx, noReach] at hrule
      obtain ⟨_, l⟩ := arrReplace_post st.h ra i rx
      exact acyclic_sub hac (single_rule hrule) l.sub
    · exact acyclic_congr rfl hac
  | get s a i =>
    simp only [step]
    split
    · exact acyclic_fresh st s _ _ (acyclic_sub hac no_rule ((arrGet_post st.h _ i).sub 0 []))
    · exact acyclic_congr rfl hac
  | mapAdd m k v =>
    simp only [step]
    split
    · rename_i rm rk rv hm hk hv
      simp only [NoCycleRule, hm, hk, hv, noReach] at hrule
      refine acyclic_sub hac (fun y hy => ?_) (mapAdd_post ω st.h rm rk rv).sub
      simp only [List.mem_cons, List.not_mem_nil, or_false] at hy
      rcases hy with e | e
      · rw [e]; exact hrule.1
      · rw [e]; exact hrule.2
    · exact acyclic_congr rfl hac
  | chunk s c =>
    simp only [step]
    split
    · rename_i rs rc hs' hc'
      simp only [NoCycleRule, hs', hc', noReach] at hrule
      exact acyclic_sub hac (single_rule hrule) (addChunk_post ω st.h rs rc).sub
    · exact acyclic_congr rfl hac
  | tagSet t x s =>
    simp only [step]
    split
    · rename_i rt rx ht hx
      simp only [NoCycleRule, ht, hx, noReach] at hrule
      have hq := acyclic_sub hac (single_rule hrule) (tagSet_sub st.h rt rx)
      split
      · rename_i h2 hts
        rw [hts] at hq; exact hq
      · rename_i old h2 hts
        rw [hts] at hq
        split
        · exact acyclic_congr rfl hq
        · split
          · exact hq
          · exact acyclic_congr rfl hq
    · exact acyclic_congr rfl hac
  | tagGet s t =>
    simp only [step]
    split
    · exact acyclic_fresh st s _ _ (acyclic_sub hac no_rule ((tagGet_post st.h _).sub 0 []))
    · exact acyclic_congr rfl hac
  | copy s x =>
    simp only [step]
    split
    · exact acyclic_fresh st s _ _ (hcopy_wf ω st.h _ ⟨hac, hcl⟩).1
    · exact acyclic_congr rfl hac
  | incref s x =>
    simp only [step]
    split
    · exact acyclic_fresh st s _ _ (acyclic_sub hac no_rule (Sub.incref st.h _ 0 []))
    · exact acyclic_congr rfl hac
  | decref s =>
    simp only [step]
    split
    · exact acyclic_shrinks hac (H.decref_shrinks st.h _)
    · exact acyclic_congr rfl hac
  | load s b =>
    simp only [step]
    exact acyclic_fresh st s _ _ (load_wf ⟨hac, hcl⟩ ω L b.toArray).1

def reachList (h : H) : Nat → List Ref → List Ref
  | 0, S => S
  | f+1, S => reachList h f (S ++ S.flatMap fun r => match h.get r with | some c => c.node.children | none => []).eraseDups

/-- `a` is certainly not reachable from `x`: the items found from `x` are closed under references and `a` is not among them -/
def unreachB (h : H) (x a : Ref) : Bool :=
  let S := reachList h h.cells.length [x]
  closedSet h S && S.contains x && !S.contains a

theorem unreachB_sound {h : H} {x a : Ref} (hb : unreachB h x a = true) : ¬ Reach h x a := by
  simp only [unreachB, Bool.and_eq_true, Bool.not_eq_true'] at hb
  exact not_reach_of_closedSet _ hb.1.1 hb.1.2 hb.2

def noReachB (h : H) : Option Ref → Option Ref → Bool
  | some x, some a => unreachB h x a
  | _, _ => true

theorem noReachB_sound {h : H} {x a : Option Ref} (hb : noReachB h x a = true) : noReach h x a := by
  cases x <;> cases a <;> simp only [noReach]
  exact unreachB_sound hb

def noCycleRuleB (st : St) : Op → Bool
  | .push a x => noReachB st.h (st.slot x) (st.slot a)
  | .pushMove a x => noReachB st.h (st.slot x) (st.slot a)
  | .set a _ x => noReachB st.h (st.slot x) (st.slot a)
  | .replace a _ x => noReachB st.h (st.slot x) (st.slot a)
  | .mapAdd m k v => noReachB st.h (st.slot k) (st.slot m) && noReachB st.h (st.slot v) (st.slot m)
  | .chunk s c => noReachB st.h (st.slot c) (st.slot s)
  | .tagSet t x _ => noReachB st.h (st.slot x) (st.slot t)
  | .buildTag _ _ x => noReachB st.h (st.slot x) (some st.h.cells.length)
  | _ => true

theorem noCycleRuleB_sound {st : St} {op : Op} (hb : noCycleRuleB st op = true) : NoCycleRule st op := by
  cases op <;> simp only [NoCycleRule, noCycleRuleB, Bool.and_eq_true] at hb ⊢
  all_goals first
    | exact noReachB_sound hb
    | exact ⟨noReachB_sound hb.1, noReachB_sound hb.2⟩

end Heap

namespace Props.C04
open Heap

theorem noCycleRule_buildTag (st : St) (hc : Counts st.h (own st)) (s n x : Nat) : NoCycleRule st (.buildTag s n x) := by
  simp only [NoCycleRule]
  cases hx : st.slot x with
  | none => simp only [noReach]
  | some rx =>
    simp only [noReach]
    intro hr
    have hpos : 0 < own st rx := by
      simp only [St.slot] at hx
      cases hh : st.slots[x]? with
      | none => rw [hh] at hx; cases hx
      | some v =>
        rw [hh] at hx
        simp only [Option.join] at hx
        subst hx
        exact List.count_pos_iff.mpr (List.mem_of_getElem? hh)
    obtain ⟨c, hg⟩ := (C04_no_dangling st.h (own st) hc).1 rx hpos
    exact Nat.lt_irrefl _ (reach_lt (closedAll_of_counts hc) hr (get_lt hg))

def NoCycles (ω : Oracle) (L : Nat) : St → List Op → Prop
  | _, [] => True
  | st, op :: ops => NoCycleRule st op ∧ NoCycles ω L (step ω L st op).1 ops

/-- executable sufficient condition for `NoCycles` -/
def noCyclesB (ω : Oracle) (L : Nat) : St → List Op → Bool
  | _, [] => true
  | st, op :: ops => noCycleRuleB st op && noCyclesB ω L (step ω L st op).1 ops

theorem noCyclesB_sound (ω : Oracle) (L : Nat) : ∀ (ops : List Op) (st : St), noCyclesB ω L st ops = true → NoCycles ω L st ops
  | [], _, _ => trivial
  | op :: ops, st, hb => by
    simp only [noCyclesB, Bool.and_eq_true] at hb
    exact ⟨noCycleRuleB_sound hb.1, noCyclesB_sound ω L ops _ hb.2⟩

theorem acyclic_init : Acyclic ({} : St).h := ⟨fun _ => 0, fun r c hg => by simp [H.get] at hg⟩

/-- C04: after any rule-following history in which every step also follows
`NoCycleRule`, under any allocator oracle, the container graph is acyclic. -/
theorem C04_acyclic_run (ω : Oracle) (L : Nat) : ∀ (ops : List Op) (st : St),
    Counts st.h (own st) → Acyclic st.h → RuleFollowing ω L st ops → NoCycles ω L st ops → Acyclic (run ω L st ops).h
  | [], _, _, hac, _, _ => hac
  | op :: ops, st, hc, hac, hr, hn =>
    C04_acyclic_run ω L ops (step ω L st op).1 (C04_step ω L st op hc hr.1)
      (acyclic_step ω L st op hac (closedAll_of_counts hc) hn.1) hr.2 hn.2

theorem C04_acyclic_run_from_init (ω : Oracle) (L : Nat) (ops : List Op) (hr : RuleFollowing ω L {} ops)
    (hcyc : NoCycles ω L {} ops) : Acyclic (run ω L {} ops).h :=
  C04_acyclic_run ω L ops {} counts_init acyclic_init hr hcyc

/-- C04: after any history from the empty heap in which the client breaks no rule and never inserts an item into a container
reachable from it, under any allocator oracle, if the client holds no reference any more then no item is live. -/
theorem C04_nothing_left' (ω : Oracle) (L : Nat) (ops : List Op) (hr : RuleFollowing ω L {} ops)
    (hcyc : NoCycles ω L {} ops) (hz : ∀ r, own (run ω L {} ops) r = 0) :
    ∀ r, (run ω L {} ops).h.get r = none :=
  C04_nothing_left ω L ops hr hz (C04_acyclic_run_from_init ω L ops hr hcyc)

/-! non-vacuity: a concrete history (array in a tag, both in a map, the map in another tag; the previous content of the
tag handed back) satisfies every hypothesis of `C04_nothing_left'`, so everything it allocated has been released -/

def exampleOps : List Op :=
  [.newInt 0 false .w8 7, .newArr 1 false 0, .push 1 0, .buildTag 2 7 1, .newMap 4 false 0, .mapAdd 4 0 2,
   .newTag 3 1, .tagSet 3 4 5, .newArr 6 true 2, .set 6 0 3, .tagSet 3 0 5,
   .decref 0, .decref 1, .decref 2, .decref 3, .decref 4, .decref 5, .decref 6]

theorem exampleOps_hyps :
    RuleFollowing (fun _ => true) 2048 {} exampleOps ∧ NoCycles (fun _ => true) 2048 {} exampleOps ∧
    ∀ r, own (run (fun _ => true) 2048 {} exampleOps) r = 0 :=
  ⟨by simp only [exampleOps, RuleFollowing]; decide, noCyclesB_sound _ _ _ _ (by decide), fun r => by
    have e : (run (fun _ => true) 2048 {} exampleOps).slots = List.replicate 16 none := by decide
    show List.count (some r) (run (fun _ => true) 2048 {} exampleOps).slots = 0
    rw [e]; simp⟩

example : (run (fun _ => true) 2048 {} (exampleOps.take 11)).h.liveCells = 6 := by decide

example : ∀ r, (run (fun _ => true) 2048 {} exampleOps).h.get r = none :=
  C04_nothing_left' _ _ _ exampleOps_hyps.1 exampleOps_hyps.2.1 exampleOps_hyps.2.2

/-! the same with `cbor_copy` and `cbor_load` in the history (`copy` and `load` only reduce in the kernel: `decide +kernel`) -/

def exampleOps2 : List Op :=
  [.newInt 0 false .w8 7, .newArr 1 false 0, .push 1 0, .buildTag 2 7 1, .copy 3 2, .load 4 [0x82, 0x01, 0x61, 0x61], .push 1 4,
   .decref 0, .decref 1, .decref 2, .decref 3, .decref 4]

example : (run (fun _ => true) 2048 {} (exampleOps2.take 7)).h.liveCells = 9 := by decide +kernel

example : ∀ r, (run (fun _ => true) 2048 {} exampleOps2).h.get r = none :=
  C04_nothing_left' _ _ _ (by simp only [exampleOps2, RuleFollowing]; decide +kernel) (noCyclesB_sound _ _ _ _ (by decide +kernel))
    (fun r => by
      have e : (run (fun _ => true) 2048 {} exampleOps2).slots = List.replicate 16 none := by decide +kernel
      show List.count (some r) (run (fun _ => true) 2048 {} exampleOps2).slots = 0
      rw [e]; simp)

/-! the rule is needed: a client that pushes an array into itself breaks no other rule, ends up owning nothing, and
the array is never released -/
example :
    let ops : List Op := [.newArr 0 false 0, .push 0 0, .decref 0]
    let st := run (fun _ => true) 2048 {} ops
    RuleFollowing (fun _ => true) 2048 {} ops ∧ st.slots = List.replicate 16 none ∧ st.h.liveCells = 1 ∧
    ¬ NoCycles (fun _ => true) 2048 {} ops := by
  refine ⟨by simp only [RuleFollowing]; decide, by decide, by decide, ?_⟩
  intro hn
  exact hn.2.1 (Reach.refl _)

end Props.C04
