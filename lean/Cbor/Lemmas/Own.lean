import Cbor.Lemmas.Heap
/-!
# Denotation of heap items, and exclusively owned trees

`Den t h x`: item `x` of heap `h` denotes the tree `t` (sub-items may be shared).  `Own t h y lo hi`: moreover the tree is
laid out in exactly the cells `lo … hi-1`, every node with reference count 1 and used once — what `cbor_copy` and `cbor_load`
hand out, and what a failed operation must have released again.  `Freed h h' lo hi`: `h'` is `h` with those cells released;
`decref_own_depth`: releasing the root of an owned tree does exactly that, given fuel (= recursion depth) `rdepth t`.
-/
namespace Heap
open Spec (Item)

/-- the chunks of an indefinite string: definite strings of the same kind -/
def DenChunks (t : Bool) : List (List UInt8) → H → List Ref → Prop
  | [], _, [] => True
  | b :: bs, h, c :: cs => (∃ rc, h.get c = some ⟨.str t b, rc⟩) ∧ DenChunks t bs h cs
  | _, _, _ => False

mutual
def Den : Item → H → Ref → Prop
  | .uint w v, h, x => ∃ rc, h.get x = some ⟨.int false w v, rc⟩
  | .negint w v, h, x => ∃ rc, h.get x = some ⟨.int true w v, rc⟩
  | .bytes b, h, x => ∃ rc, h.get x = some ⟨.str false b, rc⟩
  | .text b, h, x => ∃ rc, h.get x = some ⟨.str true b, rc⟩
  | .bytesI cs, h, x => ∃ rs cap rc, h.get x = some ⟨.strI false rs cap, rc⟩ ∧ DenChunks false cs h rs
  | .textI cs, h, x => ∃ rs cap rc, h.get x = some ⟨.strI true rs cap, rc⟩ ∧ DenChunks true cs h rs
  | .array ts, h, x => ∃ xs al rc, h.get x = some ⟨.arr true xs al, rc⟩ ∧ DenList ts h xs
  | .arrayI ts, h, x => ∃ xs al rc, h.get x = some ⟨.arr false xs al, rc⟩ ∧ DenList ts h xs
  | .map ps, h, x => ∃ rs al rc, h.get x = some ⟨.map true rs al, rc⟩ ∧ DenPairs ps h rs
  | .mapI ps, h, x => ∃ rs al rc, h.get x = some ⟨.map false rs al, rc⟩ ∧ DenPairs ps h rs
  | .tag n t, h, x => ∃ y rc, h.get x = some ⟨.tag n (some y), rc⟩ ∧ Den t h y
  | .simple v, h, x => ∃ rc, h.get x = some ⟨.ctrl v, rc⟩
  | .half f, h, x => ∃ rc, h.get x = some ⟨.half f, rc⟩
  | .single b, h, x => ∃ rc, h.get x = some ⟨.single b, rc⟩
  | .double b, h, x => ∃ rc, h.get x = some ⟨.double b, rc⟩
def DenList : List Item → H → List Ref → Prop
  | [], _, [] => True
  | t :: ts, h, x :: xs => Den t h x ∧ DenList ts h xs
  | _, _, _ => False
def DenPairs : List (Item × Item) → H → List (Ref × Ref) → Prop
  | [], _, [] => True
  | (k, v) :: ps, h, (a, b) :: rs => Den k h a ∧ Den v h b ∧ DenPairs ps h rs
  | _, _, _ => False
end

/-- where a container's own cell sits relative to the cells `lo' … hi'-1` of its members: first (`cbor_copy` allocates a
container and then copies the members into it; the callbacks of `cbor_load` allocate every container, tags included,
before its members are decoded) or last (`cbor_copy` of a tag copies the content and then calls `cbor_build_tag`;
`Heap.build` lays a decoded tree out members first) -/
def Around (y lo hi lo' hi' : Nat) : Prop :=
  (y = lo ∧ lo' = lo + 1 ∧ hi' = hi) ∨ (lo' = lo ∧ hi' = y ∧ hi = y + 1)

theorem Around.first (lo hi : Nat) : Around lo lo hi (lo + 1) hi := Or.inl ⟨rfl, rfl, rfl⟩
theorem Around.last (lo y : Nat) : Around y lo (y + 1) lo y := Or.inr ⟨rfl, rfl, rfl⟩

/-- the arithmetic of the two layouts, in a form `omega` takes -/
theorem Around.cases {y lo hi lo' hi' : Nat} (ha : Around y lo hi lo' hi') :
    (y = lo ∧ lo' = lo + 1 ∧ hi' = hi) ∨ (lo' = lo ∧ hi' = y ∧ hi = y + 1) := ha

def OwnChunks (t : Bool) : List (List UInt8) → H → List Ref → Nat → Nat → Prop
  | [], _, [], lo, hi => lo = hi
  | b :: bs, h, c :: cs, lo, hi => lo = c ∧ h.get c = some ⟨.str t b, 1⟩ ∧ OwnChunks t bs h cs (lo + 1) hi
  | _, _, _, _, _ => False

mutual
def Own : Item → H → Nat → Nat → Nat → Prop
  | .uint w v, h, y, lo, hi => y = lo ∧ hi = lo + 1 ∧ h.get y = some ⟨.int false w v, 1⟩
  | .negint w v, h, y, lo, hi => y = lo ∧ hi = lo + 1 ∧ h.get y = some ⟨.int true w v, 1⟩
  | .bytes b, h, y, lo, hi => y = lo ∧ hi = lo + 1 ∧ h.get y = some ⟨.str false b, 1⟩
  | .text b, h, y, lo, hi => y = lo ∧ hi = lo + 1 ∧ h.get y = some ⟨.str true b, 1⟩
  | .bytesI cs, h, y, lo, hi => ∃ rs cap lo' hi', h.get y = some ⟨.strI false rs cap, 1⟩ ∧ Around y lo hi lo' hi' ∧ OwnChunks false cs h rs lo' hi'
  | .textI cs, h, y, lo, hi => ∃ rs cap lo' hi', h.get y = some ⟨.strI true rs cap, 1⟩ ∧ Around y lo hi lo' hi' ∧ OwnChunks true cs h rs lo' hi'
  | .array ts, h, y, lo, hi => ∃ xs al lo' hi', h.get y = some ⟨.arr true xs al, 1⟩ ∧ Around y lo hi lo' hi' ∧ OwnList ts h xs lo' hi'
  | .arrayI ts, h, y, lo, hi => ∃ xs al lo' hi', h.get y = some ⟨.arr false xs al, 1⟩ ∧ Around y lo hi lo' hi' ∧ OwnList ts h xs lo' hi'
  | .map ps, h, y, lo, hi => ∃ rs al lo' hi', h.get y = some ⟨.map true rs al, 1⟩ ∧ Around y lo hi lo' hi' ∧ OwnPairs ps h rs lo' hi'
  | .mapI ps, h, y, lo, hi => ∃ rs al lo' hi', h.get y = some ⟨.map false rs al, 1⟩ ∧ Around y lo hi lo' hi' ∧ OwnPairs ps h rs lo' hi'
  | .tag n t, h, y, lo, hi => ∃ x lo' hi', h.get y = some ⟨.tag n (some x), 1⟩ ∧ Around y lo hi lo' hi' ∧ Own t h x lo' hi'
  | .simple v, h, y, lo, hi => y = lo ∧ hi = lo + 1 ∧ h.get y = some ⟨.ctrl v, 1⟩
  | .half f, h, y, lo, hi => y = lo ∧ hi = lo + 1 ∧ h.get y = some ⟨.half f, 1⟩
  | .single b, h, y, lo, hi => y = lo ∧ hi = lo + 1 ∧ h.get y = some ⟨.single b, 1⟩
  | .double b, h, y, lo, hi => y = lo ∧ hi = lo + 1 ∧ h.get y = some ⟨.double b, 1⟩
def OwnList : List Item → H → List Ref → Nat → Nat → Prop
  | [], _, [], lo, hi => lo = hi
  | t :: ts, h, x :: xs, lo, hi => ∃ mid, Own t h x lo mid ∧ OwnList ts h xs mid hi
  | _, _, _, _, _ => False
def OwnPairs : List (Item × Item) → H → List (Ref × Ref) → Nat → Nat → Prop
  | [], _, [], lo, hi => lo = hi
  | (k, v) :: ps, h, (a, b) :: rs, lo, hi => ∃ m1 m2, Own k h a lo m1 ∧ Own v h b m1 m2 ∧ OwnPairs ps h rs m2 hi
  | _, _, _, _, _ => False
end

/-! ### the forest view

`Node.children` lists the references a node holds in one flat list (a map's as `k₁, v₁, k₂, v₂, …`); `kids` does the same
for trees.  An owned tree is a root cell with count one and, at one end of its interval, the owned forest of its members
(`own_node`); everything about owned trees is proved through the three rules of `own_ind`. -/

def kids : Item → List Item
  | .array ts | .arrayI ts => ts
  | .map ps | .mapI ps => ps.flatMap fun kv => [kv.1, kv.2]
  | .bytesI cs => cs.map .bytes
  | .textI cs => cs.map .text
  | .tag _ t => [t]
  | _ => []

theorem ownList_nil {h : H} {xs : List Ref} {lo hi : Nat} : OwnList [] h xs lo hi ↔ xs = [] ∧ lo = hi := by
  cases xs <;> simp [OwnList]

theorem ownList_cons {h : H} {t : Item} {ts : List Item} {xs : List Ref} {lo hi : Nat} :
    OwnList (t :: ts) h xs lo hi ↔ ∃ x xs' mid, xs = x :: xs' ∧ Own t h x lo mid ∧ OwnList ts h xs' mid hi := by
  cases xs with
  | nil => simp [OwnList]
  | cons x xs =>
    simp only [OwnList, List.cons.injEq]
    constructor
    · rintro ⟨mid, h1, h2⟩; exact ⟨x, xs, mid, ⟨rfl, rfl⟩, h1, h2⟩
    · rintro ⟨_, _, mid, ⟨rfl, rfl⟩, h1, h2⟩; exact ⟨mid, h1, h2⟩

theorem ownChunks_iff (t : Bool) {h : H} : ∀ (cs : List (List UInt8)) (rs : List Ref) (lo hi : Nat),
    OwnChunks t cs h rs lo hi ↔ OwnList (cs.map (if t then .text else .bytes)) h rs lo hi
  | [], [], _, _ | [], _ :: _, _, _ | _ :: _, [], _, _ => by simp [OwnChunks, OwnList]
  | b :: bs, c :: cs, lo, hi => by
    simp only [OwnChunks, List.map_cons, OwnList, ownChunks_iff t bs cs]
    cases t <;> simp only [Bool.false_eq_true, if_false, if_true, Own] <;> constructor
    all_goals first
      | (rintro ⟨rfl, hg, ho⟩; exact ⟨_, ⟨rfl, rfl, hg⟩, ho⟩)
      | (rintro ⟨_, ⟨rfl, rfl, hg⟩, ho⟩; exact ⟨rfl, hg, ho⟩)

theorem ownPairs_iff {h : H} : ∀ (ps : List (Item × Item)) (rs : List (Ref × Ref)) (lo hi : Nat),
    OwnPairs ps h rs lo hi ↔ OwnList (ps.flatMap fun kv => [kv.1, kv.2]) h (rs.flatMap fun kv => [kv.1, kv.2]) lo hi
  | [], [], _, _ | [], _ :: _, _, _ | _ :: _, [], _, _ => by simp [OwnPairs, OwnList]
  | (k, v) :: ps, (a, b) :: rs, lo, hi => by
    simp only [OwnPairs, List.flatMap_cons, List.cons_append, List.nil_append, OwnList, ownPairs_iff ps rs]
    constructor
    · rintro ⟨m1, m2, h1, h2, h3⟩; exact ⟨m1, h1, m2, h2, h3⟩
    · rintro ⟨m1, h1, m2, h2, h3⟩; exact ⟨m1, m2, h1, h2, h3⟩

/-- The last component rebuilds the tree in any heap with the same root cell and the same forest: it is what lets `own_ind`
conclude `Own t h' …` without a case distinction on `t`. -/
theorem own_node {t : Item} {h : H} {y lo hi : Nat} (ho : Own t h y lo hi) :
    ∃ n lo' hi', h.get y = some ⟨n, 1⟩ ∧ Around y lo hi lo' hi' ∧ OwnList (kids t) h n.children lo' hi' ∧
      ∀ h' : H, h'.get y = some ⟨n, 1⟩ → OwnList (kids t) h' n.children lo' hi' → Own t h' y lo hi := by
  cases t with
  | uint _ _ | negint _ _ | bytes _ | text _ | simple _ | half _ | single _ | double _ =>
    obtain ⟨h1, h2, h3⟩ := ho
    exact ⟨_, lo + 1, hi, h3, h1 ▸ Around.first lo hi, ownList_nil.mpr ⟨rfl, h2.symm⟩, fun _ hg' _ => ⟨h1, h2, hg'⟩⟩
  | bytesI cs | textI cs =>
    obtain ⟨rs, cap, lo', hi', hg, ha, hc⟩ := ho
    exact ⟨_, lo', hi', hg, ha, (ownChunks_iff _ cs rs lo' hi').mp hc,
      fun _ hg' hc' => ⟨rs, cap, lo', hi', hg', ha, (ownChunks_iff _ cs rs lo' hi').mpr hc'⟩⟩
  | array ts | arrayI ts =>
    obtain ⟨xs, al, lo', hi', hg, ha, hc⟩ := ho
    exact ⟨_, lo', hi', hg, ha, hc, fun _ hg' hc' => ⟨xs, al, lo', hi', hg', ha, hc'⟩⟩
  | map ps | mapI ps =>
    obtain ⟨rs, al, lo', hi', hg, ha, hc⟩ := ho
    exact ⟨_, lo', hi', hg, ha, (ownPairs_iff ps rs lo' hi').mp hc,
      fun _ hg' hc' => ⟨rs, al, lo', hi', hg', ha, (ownPairs_iff ps rs lo' hi').mpr hc'⟩⟩
  | tag n t =>
    obtain ⟨x, lo', hi', hg, ha, hc⟩ := ho
    refine ⟨_, lo', hi', hg, ha, ownList_cons.mpr ⟨x, [], hi', rfl, hc, ownList_nil.mpr ⟨rfl, rfl⟩⟩, fun _ hg' hc' => ?_⟩
    obtain ⟨_, _, _, e, ht, hn⟩ := ownList_cons.mp hc'
    cases e
    obtain ⟨_, rfl⟩ := ownList_nil.mp hn
    exact ⟨x, lo', _, hg', ha, ht⟩

mutual
theorem kids_ind {P : Item → Prop} (step : ∀ t, (∀ k ∈ kids t, P k) → P t) : ∀ t, P t
  | .array ts | .arrayI ts => step _ (kidsL_ind step ts)
  | .map ps | .mapI ps => step _ (kidsP_ind step ps)
  | .tag _ t => step _ (fun k hk => List.mem_singleton.mp hk ▸ kids_ind step t)
  | .bytesI cs | .textI cs => step _ (by
      simp only [kids, List.mem_map]; rintro _ ⟨b, _, rfl⟩; exact step _ (by simp [kids]))
  | .uint _ _ | .negint _ _ | .bytes _ | .text _ | .simple _ | .half _ | .single _ | .double _ => step _ (by simp [kids])
theorem kidsL_ind {P : Item → Prop} (step : ∀ t, (∀ k ∈ kids t, P k) → P t) : ∀ ts : List Item, ∀ k ∈ ts, P k
  | [], _, hk => by cases hk
  | t :: ts, k, hk => by
    rcases List.mem_cons.mp hk with e | e
    · exact e ▸ kids_ind step t
    · exact kidsL_ind step ts k e
theorem kidsP_ind {P : Item → Prop} (step : ∀ t, (∀ k ∈ kids t, P k) → P t) :
    ∀ ps : List (Item × Item), ∀ k ∈ (ps.flatMap fun kv => [kv.1, kv.2]), P k
  | [], _, hk => by simp at hk
  | (a, b) :: ps, k, hk => by
    simp only [List.flatMap_cons, List.cons_append, List.nil_append, List.mem_cons] at hk
    rcases hk with e | e | e
    · exact e ▸ kids_ind step a
    · exact e ▸ kids_ind step b
    · exact kidsP_ind step ps k e
end

/-- `Own` and `OwnList` read as a pair of predicates defined by three rules: to prove `P` of every owned tree and `Q` of
every owned forest, prove `P` of a root cell over a forest with `Q`, `Q` of the empty forest, and `Q` of a tree with `P`
followed by a forest with `Q` -/
theorem own_ind {h : H} {P : Item → Nat → Nat → Nat → Prop} {Q : List Item → List Ref → Nat → Nat → Prop}
    (node : ∀ t y lo hi n lo' hi', h.get y = some ⟨n, 1⟩ → Around y lo hi lo' hi' → OwnList (kids t) h n.children lo' hi' →
      (∀ h' : H, h'.get y = some ⟨n, 1⟩ → OwnList (kids t) h' n.children lo' hi' → Own t h' y lo hi) →
      Q (kids t) n.children lo' hi' → P t y lo hi)
    (nil : ∀ lo, Q [] [] lo lo)
    (cons : ∀ t ts x xs lo mid hi, Own t h x lo mid → OwnList ts h xs mid hi → P t x lo mid → Q ts xs mid hi →
      Q (t :: ts) (x :: xs) lo hi) :
    (∀ t y lo hi, Own t h y lo hi → P t y lo hi) ∧ ∀ ts xs lo hi, OwnList ts h xs lo hi → Q ts xs lo hi := by
  have forest : ∀ ts, (∀ t ∈ ts, ∀ y lo hi, Own t h y lo hi → P t y lo hi) → ∀ xs lo hi, OwnList ts h xs lo hi → Q ts xs lo hi := by
    intro ts
    induction ts with
    | nil => intro _ xs lo hi ho; obtain ⟨rfl, rfl⟩ := ownList_nil.mp ho; exact nil lo
    | cons t ts ih =>
      intro hp xs lo hi ho
      obtain ⟨x, xs', mid, rfl, h1, h2⟩ := ownList_cons.mp ho
      exact cons t ts x xs' lo mid hi h1 h2 (hp t List.mem_cons_self x lo mid h1)
        (ih (fun t ht => hp t (List.mem_cons_of_mem _ ht)) xs' mid hi h2)
  have tree : ∀ t y lo hi, Own t h y lo hi → P t y lo hi := by
    intro t
    induction t using kids_ind with
    | step t ih =>
      intro y lo hi ho
      obtain ⟨n, lo', hi', hg, ha, hc, mk⟩ := own_node ho
      exact node t y lo hi n lo' hi' hg ha hc mk (forest _ ih _ lo' hi' hc)
  exact ⟨tree, fun ts => forest ts fun t _ => tree t⟩

theorem own_bounds {h : H} :
    (∀ t y lo hi, Own t h y lo hi → lo < hi ∧ lo ≤ y ∧ y < hi) ∧ ∀ ts xs lo hi, OwnList ts h xs lo hi → lo ≤ hi := by
  refine own_ind ?_ (fun _ => Nat.le_refl _) ?_
  · intro t y lo hi n lo' hi' _ ha _ _ hq; have := ha.cases; omega
  · intro t ts x xs lo mid hi _ _ hp hq; omega

theorem own_lt {h : H} {t : Item} {y lo hi : Nat} (ho : Own t h y lo hi) : lo < hi ∧ lo ≤ y ∧ y < hi :=
  own_bounds.1 t y lo hi ho

theorem ownList_le {h : H} {ts : List Item} {xs : List Ref} {lo hi : Nat} (ho : OwnList ts h xs lo hi) : lo ≤ hi :=
  own_bounds.2 ts xs lo hi ho

theorem ownPairs_le {h : H} {ps : List (Item × Item)} {rs : List (Ref × Ref)} {lo hi : Nat} (ho : OwnPairs ps h rs lo hi) : lo ≤ hi :=
  ownList_le ((ownPairs_iff ps rs lo hi).mp ho)

theorem ownChunks_le {t : Bool} {h : H} {cs : List (List UInt8)} {rs : List Ref} {lo hi : Nat} (ho : OwnChunks t cs h rs lo hi) : lo ≤ hi :=
  ownList_le ((ownChunks_iff t cs rs lo hi).mp ho)

theorem own_root {t : Item} {h : H} {y lo hi : Nat} (ho : Own t h y lo hi) : ∃ n, h.get y = some ⟨n, 1⟩ :=
  have ⟨n, _, _, hg, _⟩ := own_node ho
  ⟨n, hg⟩

theorem own_str {h : H} {t : Bool} {b : List UInt8} {e lo hi : Nat} :
    Own ((if t then Item.text else Item.bytes) b) h e lo hi ↔ e = lo ∧ hi = lo + 1 ∧ h.get e = some ⟨.str t b, 1⟩ := by
  cases t <;> exact Iff.rfl

theorem own_congr_both {h h' : H} :
    (∀ t y lo hi, Own t h y lo hi → (∀ r, lo ≤ r → r < hi → h'.get r = h.get r) → Own t h' y lo hi) ∧
    ∀ ts xs lo hi, OwnList ts h xs lo hi → (∀ r, lo ≤ r → r < hi → h'.get r = h.get r) → OwnList ts h' xs lo hi := by
  refine own_ind ?_ (fun _ _ => ownList_nil.mpr ⟨rfl, rfl⟩) ?_
  · intro t y lo hi n lo' hi' hg ha hc mk hq e
    have := ownList_le hc
    have := ha.cases
    exact mk h' (by rw [e y (by omega) (by omega)]; exact hg) (hq fun r h1 h2 => e r (by omega) (by omega))
  · intro t ts x xs lo mid hi h1 h2 hp hq e
    have := own_lt h1
    have := ownList_le h2
    exact ownList_cons.mpr ⟨x, xs, mid, rfl, hp fun r a b => e r a (by omega), hq fun r a b => e r (by omega) b⟩

theorem own_congr {h h' : H} {t : Item} {y lo hi : Nat} (e : ∀ r, lo ≤ r → r < hi → h'.get r = h.get r)
    (ho : Own t h y lo hi) : Own t h' y lo hi :=
  own_congr_both.1 t y lo hi ho e

theorem ownList_congr {h h' : H} {ts : List Item} {xs : List Ref} {lo hi : Nat} (e : ∀ r, lo ≤ r → r < hi → h'.get r = h.get r)
    (ho : OwnList ts h xs lo hi) : OwnList ts h' xs lo hi :=
  own_congr_both.2 ts xs lo hi ho e

theorem ownPairs_congr {h h' : H} {ps : List (Item × Item)} {rs : List (Ref × Ref)} {lo hi : Nat}
    (e : ∀ r, lo ≤ r → r < hi → h'.get r = h.get r) (ho : OwnPairs ps h rs lo hi) : OwnPairs ps h' rs lo hi :=
  (ownPairs_iff ps rs lo hi).mpr (ownList_congr e ((ownPairs_iff ps rs lo hi).mp ho))

theorem ownChunks_congr {t : Bool} {h h' : H} {cs : List (List UInt8)} {rs : List Ref} {lo hi : Nat}
    (e : ∀ r, lo ≤ r → r < hi → h'.get r = h.get r) (ho : OwnChunks t cs h rs lo hi) : OwnChunks t cs h' rs lo hi :=
  (ownChunks_iff t cs rs lo hi).mpr (ownList_congr e ((ownChunks_iff t cs rs lo hi).mp ho))

theorem ownList_single {h : H} {t : Item} {x lo hi : Nat} (ho : Own t h x lo hi) : OwnList [t] h [x] lo hi :=
  ownList_cons.mpr ⟨x, [], hi, rfl, ho, ownList_nil.mpr ⟨rfl, rfl⟩⟩

theorem ownList_append {h : H} : ∀ {ts ts' : List Item} {xs xs' : List Ref} {lo mid hi : Nat},
    OwnList ts h xs lo mid → OwnList ts' h xs' mid hi → OwnList (ts ++ ts') h (xs ++ xs') lo hi
  | [], _, _, _, _, _, _, ho, ho' => by
    obtain ⟨rfl, rfl⟩ := ownList_nil.mp ho; exact ho'
  | t :: ts, _, _, _, _, _, _, ho, ho' => by
    obtain ⟨x, xs, m, rfl, h1, h2⟩ := ownList_cons.mp ho
    exact ownList_cons.mpr ⟨x, xs ++ _, m, rfl, h1, ownList_append h2 ho'⟩

theorem own_all_one_both {h : H} :
    (∀ t y lo hi, Own t h y lo hi → ∀ r, lo ≤ r → r < hi → ∃ c, h.get r = some c ∧ c.rc = 1) ∧
    ∀ ts xs lo hi, OwnList ts h xs lo hi → ∀ r, lo ≤ r → r < hi → ∃ c, h.get r = some c ∧ c.rc = 1 := by
  refine own_ind ?_ (fun lo r h1 h2 => by omega) ?_
  · intro t y lo hi n lo' hi' hg ha _ _ hq r h1 h2
    by_cases e : r = y
    · subst e; exact ⟨_, hg, rfl⟩
    · have := ha.cases; exact hq r (by omega) (by omega)
  · intro t ts x xs lo mid hi _ _ hp hq r h1 h2
    by_cases hm : r < mid
    · exact hp r h1 hm
    · exact hq r (by omega) h2

theorem own_all_one {t : Item} {h : H} {y lo hi : Nat} (ho : Own t h y lo hi) : ∀ r, lo ≤ r → r < hi → ∃ c, h.get r = some c ∧ c.rc = 1 :=
  own_all_one_both.1 t y lo hi ho

theorem ownList_all_one : ∀ (ts : List Item) (h : H) (xs : List Ref) (lo hi : Nat), OwnList ts h xs lo hi →
    ∀ r, lo ≤ r → r < hi → ∃ c, h.get r = some c ∧ c.rc = 1 :=
  fun ts _ xs lo hi => own_all_one_both.2 ts xs lo hi

theorem ownPairs_all_one : ∀ (ps : List (Item × Item)) (h : H) (rs : List (Ref × Ref)) (lo hi : Nat), OwnPairs ps h rs lo hi →
    ∀ r, lo ≤ r → r < hi → ∃ c, h.get r = some c ∧ c.rc = 1 :=
  fun ps h rs lo hi ho => ownList_all_one _ h _ lo hi ((ownPairs_iff ps rs lo hi).mp ho)

theorem ownChunks_den (t : Bool) {h : H} : ∀ (cs : List (List UInt8)) (rs : List Ref) (lo hi : Nat),
    OwnChunks t cs h rs lo hi → DenChunks t cs h rs
  | [], [], _, _, _ => trivial
  | [], _ :: _, _, _, ho | _ :: _, [], _, _, ho => ho.elim
  | _ :: bs, _ :: cs, lo, hi, ⟨_, hg, ho⟩ => ⟨⟨1, hg⟩, ownChunks_den t bs cs (lo + 1) hi ho⟩

mutual
theorem own_den {h : H} : ∀ (t : Item) (y lo hi : Nat), Own t h y lo hi → Den t h y
  | .uint _ _, _, _, _, ho | .negint _ _, _, _, _, ho | .bytes _, _, _, _, ho | .text _, _, _, _, ho
  | .simple _, _, _, _, ho | .half _, _, _, _, ho | .single _, _, _, _, ho | .double _, _, _, _, ho => ⟨1, ho.2.2⟩
  | .bytesI cs, _, _, _, ⟨rs, cap, lo', hi', hg, _, hc⟩ | .textI cs, _, _, _, ⟨rs, cap, lo', hi', hg, _, hc⟩ =>
    ⟨rs, cap, 1, hg, ownChunks_den _ cs rs lo' hi' hc⟩
  | .array ts, _, _, _, ⟨xs, al, lo', hi', hg, _, hc⟩ | .arrayI ts, _, _, _, ⟨xs, al, lo', hi', hg, _, hc⟩ =>
    ⟨xs, al, 1, hg, ownList_den ts xs lo' hi' hc⟩
  | .map ps, _, _, _, ⟨rs, al, lo', hi', hg, _, hc⟩ | .mapI ps, _, _, _, ⟨rs, al, lo', hi', hg, _, hc⟩ =>
    ⟨rs, al, 1, hg, ownPairs_den ps rs lo' hi' hc⟩
  | .tag _ t, _, _, _, ⟨x, lo', hi', hg, _, hc⟩ => ⟨x, 1, hg, own_den t x lo' hi' hc⟩
theorem ownList_den {h : H} : ∀ (ts : List Item) (xs : List Ref) (lo hi : Nat), OwnList ts h xs lo hi → DenList ts h xs
  | [], [], _, _, _ => trivial
  | [], _ :: _, _, _, ho | _ :: _, [], _, _, ho => ho.elim
  | t :: ts, x :: xs, lo, hi, ⟨mid, h1, h2⟩ => ⟨own_den t x lo mid h1, ownList_den ts xs mid hi h2⟩
theorem ownPairs_den {h : H} : ∀ (ps : List (Item × Item)) (rs : List (Ref × Ref)) (lo hi : Nat), OwnPairs ps h rs lo hi → DenPairs ps h rs
  | [], [], _, _, _ => trivial
  | [], _ :: _, _, _, ho | _ :: _, [], _, _, ho => ho.elim
  | (k, v) :: ps, (a, b) :: rs, lo, hi, ⟨m1, m2, h1, h2, h3⟩ =>
    ⟨own_den k a lo m1 h1, own_den v b m1 m2 h2, ownPairs_den ps rs m2 hi h3⟩
end

theorem denChunks_length (t : Bool) {h : H} : ∀ (cs : List (List UInt8)) (rs : List Ref), DenChunks t cs h rs → cs.length = rs.length
  | [], [], _ => rfl
  | [], _ :: _, ho | _ :: _, [], ho => ho.elim
  | _ :: bs, _ :: cs, ⟨_, ho⟩ => congrArg (· + 1) (denChunks_length t bs cs ho)

theorem denList_length {h : H} : ∀ (ts : List Item) (xs : List Ref), DenList ts h xs → ts.length = xs.length
  | [], [], _ => rfl
  | [], _ :: _, hd | _ :: _, [], hd => hd.elim
  | _ :: ts, _ :: xs, ⟨_, hd⟩ => congrArg (· + 1) (denList_length ts xs hd)

theorem denPairs_length {h : H} : ∀ (ps : List (Item × Item)) (rs : List (Ref × Ref)), DenPairs ps h rs → ps.length = rs.length
  | [], [], _ => rfl
  | [], _ :: _, hd | _ :: _, [], hd => hd.elim
  | (_, _) :: ps, (_, _) :: rs, ⟨_, _, hd⟩ => congrArg (· + 1) (denPairs_length ps rs hd)

theorem ownChunks_length {t : Bool} {h : H} {cs : List (List UInt8)} {rs : List Ref} {lo hi : Nat} (ho : OwnChunks t cs h rs lo hi) :
    rs.length = cs.length :=
  (denChunks_length t cs rs (ownChunks_den t cs rs lo hi ho)).symm

theorem ownList_length {h : H} {ts : List Item} {xs : List Ref} {lo hi : Nat} (ho : OwnList ts h xs lo hi) : xs.length = ts.length :=
  (denList_length ts xs (ownList_den ts xs lo hi ho)).symm

theorem ownPairs_length {h : H} {ps : List (Item × Item)} {rs : List (Ref × Ref)} {lo hi : Nat} (ho : OwnPairs ps h rs lo hi) :
    rs.length = ps.length :=
  (denPairs_length ps rs (ownPairs_den ps rs lo hi ho)).symm

theorem denChunks_congr (t : Bool) {h h' : H} (e : ∀ r c, h.get r = some c → h'.get r = some c) :
    ∀ (cs : List (List UInt8)) (rs : List Ref), DenChunks t cs h rs → DenChunks t cs h' rs
  | [], [], _ => trivial
  | [], _ :: _, ho | _ :: _, [], ho => ho.elim
  | _ :: bs, _ :: cs, ⟨⟨rc, hg⟩, h2⟩ => ⟨⟨rc, e _ _ hg⟩, denChunks_congr t e bs cs h2⟩

mutual
theorem den_congr {h h' : H} (e : ∀ r c, h.get r = some c → h'.get r = some c) : ∀ (t : Item) (x : Ref), Den t h x → Den t h' x
  | .uint _ _, _, ⟨rc, hg⟩ | .negint _ _, _, ⟨rc, hg⟩ | .bytes _, _, ⟨rc, hg⟩ | .text _, _, ⟨rc, hg⟩
  | .simple _, _, ⟨rc, hg⟩ | .half _, _, ⟨rc, hg⟩ | .single _, _, ⟨rc, hg⟩ | .double _, _, ⟨rc, hg⟩ => ⟨rc, e _ _ hg⟩
  | .bytesI cs, _, ⟨rs, cap, rc, hg, hc⟩ | .textI cs, _, ⟨rs, cap, rc, hg, hc⟩ => ⟨rs, cap, rc, e _ _ hg, denChunks_congr _ e cs rs hc⟩
  | .array ts, _, ⟨xs, al, rc, hg, hc⟩ | .arrayI ts, _, ⟨xs, al, rc, hg, hc⟩ => ⟨xs, al, rc, e _ _ hg, denList_congr e ts xs hc⟩
  | .map ps, _, ⟨rs, al, rc, hg, hc⟩ | .mapI ps, _, ⟨rs, al, rc, hg, hc⟩ => ⟨rs, al, rc, e _ _ hg, denPairs_congr e ps rs hc⟩
  | .tag _ t, _, ⟨y, rc, hg, hc⟩ => ⟨y, rc, e _ _ hg, den_congr e t y hc⟩
theorem denList_congr {h h' : H} (e : ∀ r c, h.get r = some c → h'.get r = some c) : ∀ (ts : List Item) (xs : List Ref), DenList ts h xs → DenList ts h' xs
  | [], [], _ => trivial
  | [], _ :: _, ho | _ :: _, [], ho => ho.elim
  | t :: ts, x :: xs, ⟨h1, h2⟩ => ⟨den_congr e t x h1, denList_congr e ts xs h2⟩
theorem denPairs_congr {h h' : H} (e : ∀ r c, h.get r = some c → h'.get r = some c) : ∀ (ps : List (Item × Item)) (rs : List (Ref × Ref)), DenPairs ps h rs → DenPairs ps h' rs
  | [], [], _ => trivial
  | [], _ :: _, ho | _ :: _, [], ho => ho.elim
  | (k, v) :: ps, (a, b) :: rs, ⟨h1, h2, h3⟩ => ⟨den_congr e k a h1, den_congr e v b h2, denPairs_congr e ps rs h3⟩
end

/-- `get_put_other` with the indices typed `Nat`: `omega` does not prove `r ≠ y` stated over `Ref` -/
theorem get_put_ne (h : H) (y r : Nat) (c : Option Cell) (hne : r ≠ y) : (h.put y c).get r = h.get r :=
  get_put_other h y r c hne

def Freed (h h' : H) (lo hi : Nat) : Prop :=
  h'.fault = h.fault ∧ h'.reqs = h.reqs ∧ h'.cells.length = h.cells.length ∧
  (∀ r, lo ≤ r → r < hi → h'.get r = none) ∧ (∀ r, (r < lo ∨ hi ≤ r) → h'.get r = h.get r)

theorem Freed.fault {h h' : H} {lo hi : Nat} (f : Freed h h' lo hi) : h'.fault = h.fault := f.1
theorem Freed.reqs {h h' : H} {lo hi : Nat} (f : Freed h h' lo hi) : h'.reqs = h.reqs := f.2.1
theorem Freed.len {h h' : H} {lo hi : Nat} (f : Freed h h' lo hi) : h'.cells.length = h.cells.length := f.2.2.1
theorem Freed.inside {h h' : H} {lo hi : Nat} (f : Freed h h' lo hi) {r : Nat} (h1 : lo ≤ r) (h2 : r < hi) : h'.get r = none :=
  f.2.2.2.1 r h1 h2
theorem Freed.below {h h' : H} {lo hi : Nat} (f : Freed h h' lo hi) {r : Nat} (hr : r < lo) : h'.get r = h.get r :=
  f.2.2.2.2 r (Or.inl hr)
theorem Freed.above {h h' : H} {lo hi : Nat} (f : Freed h h' lo hi) {r : Nat} (hr : hi ≤ r) : h'.get r = h.get r :=
  f.2.2.2.2 r (Or.inr hr)

theorem Freed.empty (h : H) (lo : Nat) : Freed h h lo lo :=
  ⟨rfl, rfl, rfl, fun r h1 h2 => by omega, fun _ _ => rfl⟩

theorem Freed.union {h h1 h2 : H} {a b c d lo hi : Nat} (f1 : Freed h h1 a b) (f2 : Freed h1 h2 c d)
    (cover : ∀ r, lo ≤ r ∧ r < hi ↔ (a ≤ r ∧ r < b) ∨ (c ≤ r ∧ r < d)) : Freed h h2 lo hi := by
  obtain ⟨a1, a2, a3, a4, a5⟩ := f1
  obtain ⟨b1, b2, b3, b4, b5⟩ := f2
  refine ⟨b1.trans a1, b2.trans a2, b3.trans a3, fun r hr1 hr2 => ?_, fun r hr => ?_⟩
  · by_cases hm : c ≤ r ∧ r < d
    · exact b4 r hm.1 hm.2
    · rw [b5 r (by omega)]
      rcases (cover r).mp ⟨hr1, hr2⟩ with hx | hx
      · exact a4 r hx.1 hx.2
      · exact absurd hx hm
  · have := cover r
    rw [b5 r (by omega)]; exact a5 r (by omega)

theorem Freed.append {h h1 h2 : H} {lo mid hi : Nat} (a : Freed h h1 lo mid) (b : Freed h1 h2 mid hi) (h1' : lo ≤ mid) (h2' : mid ≤ hi) :
    Freed h h2 lo hi :=
  a.union b fun r => by omega

/-- the upper interval first -/
theorem Freed.append' {h h1 h2 : H} {lo mid hi : Nat} (a : Freed h h1 mid hi) (b : Freed h1 h2 lo mid) (h1' : lo ≤ mid) (h2' : mid ≤ hi) :
    Freed h h2 lo hi :=
  a.union b fun r => by omega

theorem freed_put_none {h : H} {y : Nat} {c : Cell} (hg : h.get y = some c) : Freed h (h.put y none) y (y + 1) :=
  ⟨rfl, rfl, by simp, fun r hr1 hr2 => by
      have : r = y := by omega
      subst this; exact get_put_same h r none (get_lt hg),
    fun r hr => get_put_ne h y r none (by omega)⟩

theorem freed_node {h h2 : H} {y lo hi lo' hi' : Nat} {c : Cell} (ha : Around y lo hi lo' hi') (hle : lo' ≤ hi') (hg : h.get y = some c)
    (hf : Freed (h.put y none) h2 lo' hi') : Freed h h2 lo hi := by
  have := ha.cases
  exact (freed_put_none hg).union hf fun r => by omega

theorem Freed.dead {h h' : H} {lo hi : Nat} (f : Freed h h' lo hi) (hn : ∀ r : Nat, hi ≤ r → h.get r = none) (r : Nat) (hr : lo ≤ r) :
    h'.get r = none := by
  by_cases hlt : r < hi
  · exact f.inside hr hlt
  · rw [f.above (by omega)]; exact hn r (by omega)

theorem Freed.restores {h h1 h2 : H} {N : Nat} (hf : Freed h1 h2 h.cells.length N)
    (hold : ∀ r : Nat, r < h.cells.length → h1.get r = h.get r) (hnew : ∀ r : Nat, N ≤ r → h1.get r = none) :
    h2.fault = h1.fault ∧ ∀ r : Nat, h2.get r = h.get r := by
  refine ⟨hf.fault, fun r => ?_⟩
  by_cases hlt : r < h.cells.length
  · rw [hf.below hlt]; exact hold r hlt
  · rw [get_none_of_ge h r (by omega)]; exact hf.dead hnew r (by omega)

theorem decref_root {h : H} {y : Ref} {n : Node} (hg : h.get y = some ⟨n, 1⟩) (f : Nat) :
    decref (f + 1) h y = n.children.foldl (decref f) (h.put y none) := by
  unfold decref; rw [hg]; simp

end Heap

/-! `rdepth` and the release at that fuel stand here, before `Heap.decref_own`, which is their corollary; what relates
`rdepth` to the decoder's nesting limit is in `Lemmas/Depth.lean`. -/
namespace Lemmas.Depth
open Spec (Item)
open Heap

mutual
/-- recursion depth of `cbor_decref` / `cbor_serialize` / `cbor_serialized_size` / `cbor_copy` / `cbor_describe` on a tree: 1 for the item itself plus the deepest member -/
def rdepth : Item → Nat
  | .array ts | .arrayI ts => 1 + rdepthL ts
  | .map ps | .mapI ps => 1 + rdepthP ps
  | .tag _ t => 1 + rdepth t
  | .bytesI cs | .textI cs => 1 + (if cs.isEmpty then 0 else 1)
  | _ => 1
def rdepthL : List Item → Nat | [] => 0 | t :: ts => max (rdepth t) (rdepthL ts)
def rdepthP : List (Item × Item) → Nat | [] => 0 | (k, v) :: ps => max (max (rdepth k) (rdepth v)) (rdepthP ps)
end

theorem rdepthL_flat : ∀ ps : List (Item × Item), rdepthL (ps.flatMap fun kv => [kv.1, kv.2]) = rdepthP ps
  | [] => rfl
  | (a, b) :: ps => by
    simp only [List.flatMap_cons, List.cons_append, List.nil_append, rdepthL, rdepthP, rdepthL_flat ps]; omega

theorem rdepth_kids (t : Item) : rdepth t = 1 + rdepthL (kids t) := by
  have leaves : ∀ (g : List UInt8 → Item), (∀ b, rdepth (g b) = 1) → ∀ cs : List (List UInt8),
      rdepthL (cs.map g) = if cs.isEmpty then 0 else 1 := by
    intro g hg cs
    induction cs with
    | nil => rfl
    | cons c cs ih => simp only [List.map_cons, rdepthL, hg, ih]; cases cs <;> simp
  cases t <;> simp only [rdepth, kids, rdepthL, rdepthL_flat, Nat.max_zero]
  all_goals rw [leaves _ (fun _ => rfl)]

theorem own_rdepth_le {h : H} :
    (∀ t y lo hi, Own t h y lo hi → rdepth t ≤ hi - lo) ∧ ∀ ts xs lo hi, OwnList ts h xs lo hi → rdepthL ts ≤ hi - lo := by
  refine own_ind ?_ (fun _ => Nat.zero_le _) ?_
  · intro t y lo hi n lo' hi' _ ha hc _ hq
    have := ownList_le hc
    rw [rdepth_kids]; have := ha.cases; omega
  · intro t ts x xs lo mid hi h1 h2 hp hq
    have := own_lt h1
    have := ownList_le h2
    simp only [rdepthL]; omega

/-! ### releasing an owned tree needs fuel (= recursion depth) `rdepth`, not the number of cells

`decref (f + 1)` on the root calls `foldl (decref f)` on the members, which calls `decref f` on each of them: an induction
on the fuel, with the members' forest released by `decrefs_forest`. -/

theorem decrefs_forest (f : Nat)
    (one : ∀ (t : Item) (h : H) (y lo hi : Nat), Own t h y lo hi → rdepth t ≤ f → Freed h (decref f h y) lo hi) :
    ∀ (ts : List Item) (h : H) (xs : List Ref) (lo hi : Nat), OwnList ts h xs lo hi → rdepthL ts ≤ f → Freed h (xs.foldl (decref f) h) lo hi
  | [], h, xs, lo, hi, ho, _ => by
    obtain ⟨rfl, rfl⟩ := ownList_nil.mp ho; exact Freed.empty h lo
  | t :: ts, h, xs, lo, hi, ho, hf => by
    obtain ⟨x, xs', mid, rfl, h1, h2⟩ := ownList_cons.mp ho
    have b1 := own_lt h1
    have b2 := ownList_le h2
    simp only [rdepthL] at hf
    have f1 := one t h x lo mid h1 (by omega)
    exact f1.append (decrefs_forest f one ts _ xs' mid hi
      (ownList_congr (fun r hr1 _ => f1.above hr1) h2) (by omega)) (by omega) b2

/-- `cbor_decref` on the root of an exclusively owned tree releases it completely as soon as the fuel — the recursion
depth available — reaches `rdepth t` (compare `Heap.decref_own`, which asks for as much fuel as the tree has cells) -/
theorem decref_own_depth : ∀ (t : Item) (f : Nat) (h : H) (y lo hi : Nat), Own t h y lo hi → rdepth t ≤ f → Freed h (decref f h y) lo hi
  | t, 0, _, _, _, _, _, hf => by rw [rdepth_kids] at hf; omega
  | t, f + 1, h, y, lo, hi, ho, hf => by
    obtain ⟨n, lo', hi', hg, ha, hc, _⟩ := own_node ho
    rw [rdepth_kids] at hf
    rw [decref_root hg f]
    refine freed_node ha (ownList_le hc) hg
      (decrefs_forest f (fun t => decref_own_depth t f) (kids t) _ _ lo' hi' ?_ (by omega))
    exact ownList_congr (fun r _ _ => get_put_ne h y r none (by have := ha.cases; omega)) hc

theorem decrefs_ownList_depth : ∀ (ts : List Item) (f : Nat) (h : H) (xs : List Ref) (lo hi : Nat),
    OwnList ts h xs lo hi → rdepthL ts ≤ f → Freed h (xs.foldl (decref f) h) lo hi :=
  fun ts f => decrefs_forest f (fun t => decref_own_depth t f) ts

theorem decrefs_ownPairs_depth : ∀ (ps : List (Item × Item)) (f : Nat) (h : H) (rs : List (Ref × Ref)) (lo hi : Nat),
    OwnPairs ps h rs lo hi → rdepthP ps ≤ f → Freed h ((rs.flatMap fun kv => [kv.1, kv.2]).foldl (decref f) h) lo hi :=
  fun ps f h rs lo hi ho hf =>
    decrefs_ownList_depth _ f h _ lo hi ((ownPairs_iff ps rs lo hi).mp ho) (by rw [rdepthL_flat]; exact hf)

end Lemmas.Depth

namespace Heap
open Spec (Item)
open Lemmas.Depth

theorem decref_own : ∀ (t : Item) (f : Nat) (h : H) (y lo hi : Nat), Own t h y lo hi → hi - lo ≤ f → Freed h (decref f h y) lo hi :=
  fun t f h y lo hi ho hf => decref_own_depth t f h y lo hi ho (Nat.le_trans (own_rdepth_le.1 t y lo hi ho) hf)

theorem decrefs_ownList : ∀ (ts : List Item) (f : Nat) (h : H) (xs : List Ref) (lo hi : Nat),
    OwnList ts h xs lo hi → hi - lo ≤ f → Freed h (xs.foldl (decref f) h) lo hi :=
  fun ts f h xs lo hi ho hf => decrefs_ownList_depth ts f h xs lo hi ho (Nat.le_trans (own_rdepth_le.2 ts xs lo hi ho) hf)

theorem decrefs_ownPairs : ∀ (ps : List (Item × Item)) (f : Nat) (h : H) (rs : List (Ref × Ref)) (lo hi : Nat),
    OwnPairs ps h rs lo hi → hi - lo ≤ f → Freed h ((rs.flatMap fun kv => [kv.1, kv.2]).foldl (decref f) h) lo hi :=
  fun ps f h rs lo hi ho hf => decrefs_ownList _ f h _ lo hi ((ownPairs_iff ps rs lo hi).mp ho) hf

/-- `cbor_decref` on the root of an exclusively owned tree: the cells of the tree are released, every other
cell, the fault flag and the request counter are untouched -/
theorem hdecref_own {t : Item} {h : H} {y lo hi : Nat} (ho : Own t h y lo hi) (hhi : hi ≤ h.cells.length) :
    Freed h (h.decref y) lo hi :=
  decref_own t h.fuel h y lo hi ho (by unfold H.fuel; omega)

end Heap
