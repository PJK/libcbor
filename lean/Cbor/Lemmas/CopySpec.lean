import Cbor.Lemmas.Link
/-!
# `cbor_copy` builds an exclusively owned, equal tree — or releases everything

The functional specification of `copy`'s result (`CopyPost`), by a direct induction over the tree being copied.  It does
not go through the relation `Copies` of `Lemmas/Heap.lean`: that one carries invariants along every path, whatever the heap
holds; here the source is known to denote a tree, and the statement is about the tree that comes out.

The source is described once, in a heap `h0` that stays frozen; `Ext h0 h` lets it be read in every later heap `h`, so the
members can be copied one after the other while the heap changes.  A container under construction sits at a cell `res` that
`h0` does not have (`h0.get res = none`): overwriting it never disturbs the source.  `ContPost S res` is `CopyPost` relative
to `res` for the loops that fill it; `need t` is fuel that suffices.
-/
namespace Heap
open Spec (Item)

mutual
/-- fuel that suffices: every call of `copy` and every round of a member loop hands one unit less to what it calls -/
def need : Item → Nat
  | .array ts | .arrayI ts => 1 + needL ts
  | .map ps | .mapI ps => 1 + needP ps
  | .bytesI cs | .textI cs => cs.length + 2
  | .tag _ t => 1 + need t
  | _ => 1
def needL : List Item → Nat
  | [] => 1
  | t :: ts => 1 + max (need t) (needL ts)
def needP : List (Item × Item) → Nat
  | [] => 1
  | (k, v) :: ps => 1 + max (max (need k) (need v)) (needP ps)
end

/-- what a copy started in heap `h` must establish: no fault; the heap only grew; every cell that existed is unchanged;
on success the result is an exclusively owned tree for `t` occupying exactly the new cells; on failure every new cell is released again -/
def CopyPost (t : Item) (h : H) (r : Option Ref × H) : Prop :=
  r.2.fault = h.fault ∧ h.cells.length ≤ r.2.cells.length ∧ (∀ x, x < h.cells.length → r.2.get x = h.get x) ∧
  match r.1 with
  | some y => Own t r.2 y h.cells.length r.2.cells.length
  | none => ∀ x, h.cells.length ≤ x → r.2.get x = none

theorem CopyPost.keeps {t : Item} {h : H} {r : Option Ref × H} (hp : CopyPost t h r) : Keeps h.cells.length h r.2 :=
  ⟨hp.1, hp.2.1, hp.2.2.1⟩

theorem CopyPost.granted {t : Item} {h h' : H} {y : Ref} (hp : CopyPost t h (some y, h')) : Own t h' y h.cells.length h'.cells.length :=
  hp.2.2.2

theorem CopyPost.refused {t : Item} {h h' : H} (hp : CopyPost t h (none, h')) : ∀ x, h.cells.length ≤ x → h'.get x = none :=
  hp.2.2.2

/-! ### handing a member to its container

These four must know which cell the primitive wrote, which the shapes of `Lemmas/Heap.lean` (multisets of references) do
not say; so they read the primitives themselves. -/

theorem arrPush_release (ω : Oracle) {h : H} {res e : Nat} {d : Bool} {items : List Ref} {al : Nat} {n : Node}
    (hr : h.get res = some ⟨.arr d items al, 1⟩) (he : h.get e = some ⟨n, 1⟩) (hne : res ≠ e) (hd : d = true → items.length < al) :
    ((arrPush ω h res e).1 = false ∧ (arrPush ω h res e).2.cells = h.cells ∧ (arrPush ω h res e).2.fault = h.fault) ∨
    ((arrPush ω h res e).1 = true ∧ ∃ al' k, (d = true → al' = al) ∧ Upd h ((arrPush ω h res e).2.decref e) res ⟨.arr d (items ++ [e]) al', 1⟩ k) := by
  have hres := get_lt hr
  unfold arrPush; rw [hr]
  cases d with
  | true =>
    have := hd rfl
    simp only [ge_iff_le, Nat.not_le.mpr this, if_false]
    exact Or.inr ⟨by trivial, al, 0, fun _ => rfl, link_release (Req.refl h) _ hres he hne⟩
  | false =>
    simp only
    split
    · obtain ⟨k, q⟩ := grow_req ω h 8 al
      cases hgr : grow ω h 8 al with
      | mk o h1 =>
        rw [hgr] at q
        cases o with
        | none => exact Or.inl ⟨rfl, q.cells, q.fault⟩
        | some na => exact Or.inr ⟨rfl, na, k, fun hh => (by cases hh), link_release q _ hres he hne⟩
    · exact Or.inr ⟨by trivial, al, 0, fun _ => rfl, link_release (Req.refl h) _ hres he hne⟩

theorem addChunk_release (ω : Oracle) {h : H} {res e : Nat} {t : Bool} {chunks : List Ref} {cap : Nat} {b : List UInt8}
    (hr : h.get res = some ⟨.strI t chunks cap, 1⟩) (he : h.get e = some ⟨.str t b, 1⟩) (hne : res ≠ e) :
    ((addChunk ω h res e).1 = false ∧ (addChunk ω h res e).2.cells = h.cells ∧ (addChunk ω h res e).2.fault = h.fault) ∨
    ((addChunk ω h res e).1 = true ∧ ∃ cap' k, Upd h ((addChunk ω h res e).2.decref e) res ⟨.strI t (chunks ++ [e]) cap', 1⟩ k) := by
  have hres := get_lt hr
  unfold addChunk; rw [hr, he]
  simp only [ne_eq, not_true_eq_false, if_false]
  split
  · obtain ⟨k, q⟩ := grow_req ω h 8 cap
    cases hgr : grow ω h 8 cap with
    | mk o h1 =>
      rw [hgr] at q
      cases o with
      | none => exact Or.inl ⟨rfl, q.cells, q.fault⟩
      | some na => exact Or.inr ⟨rfl, na, k, link_release q _ hres he hne⟩
  · exact Or.inr ⟨rfl, cap, 0, link_release (Req.refl h) _ hres he hne⟩

theorem mapAdd_release (ω : Oracle) {h : H} {m k v : Nat} {d : Bool} {ps : List (Ref × Ref)} {al : Nat} {nk nv : Node}
    (hr : h.get m = some ⟨.map d ps al, 1⟩) (hk : h.get k = some ⟨nk, 1⟩) (hv : h.get v = some ⟨nv, 1⟩)
    (hmk : m ≠ k) (hmv : m ≠ v) (hkv : k ≠ v) (hd : d = true → ps.length < al) :
    ((mapAdd ω h m k v).1 = false ∧ (mapAdd ω h m k v).2.cells = h.cells ∧ (mapAdd ω h m k v).2.fault = h.fault) ∨
    ((mapAdd ω h m k v).1 = true ∧ ∃ al' j, (d = true → al' = al) ∧
      Upd h (((mapAdd ω h m k v).2.decref k).decref v) m ⟨.map d (ps ++ [(k, v)]) al', 1⟩ j) := by
  have hres := get_lt hr
  unfold mapAdd; rw [hr]
  cases d with
  | true =>
    have := hd rfl
    simp only [ge_iff_le, Nat.not_le.mpr this, if_false]
    exact Or.inr ⟨by trivial, al, 0, fun _ => rfl, (link2_release (Req.refl h) _ hres hk hv hmk hmv hkv).2⟩
  | false =>
    simp only
    split
    · obtain ⟨j, q⟩ := grow_req ω h 16 al
      cases hgr : grow ω h 16 al with
      | mk o h1 =>
        rw [hgr] at q
        cases o with
        | none => exact Or.inl ⟨rfl, q.cells, q.fault⟩
        | some na => exact Or.inr ⟨rfl, na, j, fun hh => (by cases hh), (link2_release q _ hres hk hv hmk hmv hkv).2⟩
    · exact Or.inr ⟨rfl, al, 0, fun _ => rfl, (link2_release (Req.refl h) _ hres hk hv hmk hmv hkv).2⟩

theorem buildTag_release (ω : Oracle) {h : H} {xc : Nat} (n : Nat) {nd : Node} (he : h.get xc = some ⟨nd, 1⟩) :
    ((buildTag ω h n xc).1 = none ∧ (buildTag ω h n xc).2.cells = h.cells ∧ (buildTag ω h n xc).2.fault = h.fault) ∨
    ((buildTag ω h n xc).1 = some h.cells.length ∧ ((buildTag ω h n xc).2.decref xc).fault = h.fault ∧
      ((buildTag ω h n xc).2.decref xc).cells.length = h.cells.length + 1 ∧
      ((buildTag ω h n xc).2.decref xc).get h.cells.length = some ⟨.tag n (some xc), 1⟩ ∧
      ∀ r : Nat, r ≠ h.cells.length → ((buildTag ω h n xc).2.decref xc).get r = h.get r) := by
  have hxl : xc < h.cells.length := get_lt he
  have hn := new1_post ω h (.tag n none)
  unfold buildTag
  cases hnn : new1 ω h (.tag n none) with
  | mk o h2 =>
    rw [hnn] at hn
    cases o with
    | none => exact Or.inl ⟨rfl, hn.refused rfl⟩
    | some tg =>
      obtain ⟨rfl, hcells, hf⟩ := hn.granted
      have hgt : h2.get h.cells.length = some ⟨.tag n none, 1⟩ := get_snoc_same hcells
      have hne : h.cells.length ≠ xc := by omega
      have hgx : h2.get xc = some ⟨nd, 1⟩ := by rw [get_snoc_other hcells xc (Ne.symm hne)]; exact he
      have hl2 : h2.cells.length = h.cells.length + 1 := by rw [hcells]; simp
      have u := link_release (Req.refl h2) (a := h.cells.length) ⟨.tag n (some xc), 1⟩ (by omega) hgx hne
      refine Or.inr ⟨rfl, ?_, ?_, ?_, ?_⟩
      · simp only [tagSet, hgt]; rw [u.fault, hf]
      · simp only [tagSet, hgt]; rw [u.len, hl2]
      · simp only [tagSet, hgt]; exact u.cell
      · intro r hr
        simp only [tagSet, hgt]; rw [u.other r hr, get_snoc_other hcells r hr]

theorem Freed.then_release {hA hB : H} {T : Item} {y a b c : Nat} (hf : Freed hA hB a b) (ho : Own T hA y b c) (hc : c ≤ hA.cells.length)
    (hab : a ≤ b) : Freed hA (hB.decref y) a c :=
  hf.append (hdecref_own (own_congr (fun r h1 _ => hf.above h1) ho) (by rw [hf.len]; exact hc)) hab
    (Nat.le_of_lt (own_lt ho).1)

theorem Freed.then_release_before {hA hB : H} {T : Item} {y a b c : Nat} (hf : Freed hA hB b c) (ho : Own T hA y a b) (hb' : b ≤ hA.cells.length)
    (hbc : b ≤ c) : Freed hA (hB.decref y) a c :=
  hf.append' (hdecref_own (own_congr (fun r _ h2 => hf.below h2) ho) (by rw [hf.len]; exact hb'))
    (Nat.le_of_lt (own_lt ho).1) hbc

def Ext (h0 h : H) : Prop := ∀ r c, h0.get r = some c → h.get r = some c

theorem ext_fresh {h0 h : H} (hext : Ext h0 h) : h0.get h.cells.length = none := by
  cases hg : h0.get h.cells.length with
  | none => rfl
  | some c => have := hext _ _ hg; rw [get_none_of_ge h _ (Nat.le_refl _)] at this; cases this

theorem Keeps.ext {h0 h h1 : H} (k : Keeps h.cells.length h h1) (hext : Ext h0 h) : Ext h0 h1 := by
  intro (r : Nat) c hr
  have h1' := hext r c hr
  rw [k.old r (get_lt h1')]; exact h1'

/-- the source does not see the container under construction -/
theorem Upd.ext {h0 h1 h3 : H} {res k : Nat} {c : Cell} (hu : Upd h1 h3 res c k) (hext : Ext h0 h1) (hres0 : h0.get res = none) :
    Ext h0 h3 := by
  intro (r : Nat) c' hr
  have hrne : r ≠ res := by intro e; subst e; rw [hres0] at hr; cases hr
  rw [hu.other r hrne]; exact hext r c' hr

/-- what filling the container `res` (started in heap `h`) must establish: no fault; the heap only grew; every cell below the
container is unchanged; on success the result is `res` and it satisfies `S`; on failure everything from `res` on is released -/
def ContPost (S : H → Prop) (res : Nat) (h : H) (r : Option Ref × H) : Prop :=
  r.2.fault = h.fault ∧ h.cells.length ≤ r.2.cells.length ∧ (∀ x, x < res → r.2.get x = h.get x) ∧
  match r.1 with
  | some y => y = res ∧ S r.2
  | none => ∀ x, res ≤ x → r.2.get x = none

theorem ContPost.keeps {S : H → Prop} {res : Nat} {h : H} {r : Option Ref × H} (hp : ContPost S res h r) : Keeps res h r.2 :=
  ⟨hp.1, hp.2.1, hp.2.2.1⟩

theorem ContPost.fail {S : H → Prop} {h h2 hb : H} {res N : Nat} (k : Keeps res h h2) (hf : Freed h2 hb res N)
    (hn : ∀ x : Nat, N ≤ x → h2.get x = none) : ContPost S res h (none, hb) := by
  have k' := k.trans (hf.keeps (Nat.le_refl _))
  exact ⟨k'.fault, k'.len, k'.old, hf.dead hn⟩

theorem ContPost.rebase {S : H → Prop} {h h3 : H} {res : Nat} {r : Option Ref × H} (hp : ContPost S res h3 r) (k : Keeps res h h3) :
    ContPost S res h r :=
  have k' := k.trans hp.keeps
  ⟨k'.fault, k'.len, k'.old, hp.2.2.2⟩

/-- the indefinite string `res` holds the chunks `cs`, laid out in the cells after it up to the end of the heap -/
def StrI (t : Bool) (cs : List (List UInt8)) (res : Nat) (h' : H) : Prop :=
  ∃ rs cap, h'.get res = some ⟨.strI t rs cap, 1⟩ ∧ OwnChunks t cs h' rs (res + 1) h'.cells.length
def Arr (d : Bool) (ts : List Item) (res : Nat) (h' : H) : Prop :=
  ∃ xs al, h'.get res = some ⟨.arr d xs al, 1⟩ ∧ OwnList ts h' xs (res + 1) h'.cells.length
def MapC (d : Bool) (ps : List (Item × Item)) (res : Nat) (h' : H) : Prop :=
  ∃ rs al, h'.get res = some ⟨.map d rs al, 1⟩ ∧ OwnPairs ps h' rs (res + 1) h'.cells.length

theorem StrI.own {t : Bool} {cs : List (List UInt8)} {res : Nat} {h : H} (hs : StrI t cs res h) :
    Own (if t then .textI cs else .bytesI cs) h res res h.cells.length := by
  obtain ⟨rs, cap, hg, ho⟩ := hs
  cases t <;> exact ⟨rs, cap, res + 1, _, hg, Around.first _ _, ho⟩

theorem Arr.own {d : Bool} {ts : List Item} {res : Nat} {h : H} (hs : Arr d ts res h) :
    Own (if d then .array ts else .arrayI ts) h res res h.cells.length := by
  obtain ⟨xs, al, hg, ho⟩ := hs
  cases d <;> exact ⟨xs, al, res + 1, _, hg, Around.first _ _, ho⟩

theorem MapC.own {d : Bool} {ps : List (Item × Item)} {res : Nat} {h : H} (hs : MapC d ps res h) :
    Own (if d then .map ps else .mapI ps) h res res h.cells.length := by
  obtain ⟨rs, al, hg, ho⟩ := hs
  cases d <;> exact ⟨rs, al, res + 1, _, hg, Around.first _ _, ho⟩

/-! ### one round of a member loop

`copyItems` and `copyChunks` are the same loop up to the operation that hands the member to the container. -/

/-- copy a member, hand it to the container `res`, drop the reference the copy returned; on failure release what is there -/
def fillStep (res : Ref) (push : H → Ref → Bool × H) (loop : H → Option Ref × H) : Option Ref × H → Option Ref × H
  | (none, h) => (none, h.decref res)
  | (some e, h) =>
    match push h e with
    | (false, h) => (none, (h.decref e).decref res)
    | (true, h) => loop (h.decref e)

theorem copyItems_cons (ω : Oracle) (f : Nat) (h : H) (res x : Ref) (xs : List Ref) :
    copyItems ω (f + 1) h res (x :: xs) =
      fillStep res (fun h e => arrPush ω h res e) (fun h => copyItems ω f h res xs) (copy ω f h x) := by
  rw [copyItems]; rfl

theorem copyChunks_cons (ω : Oracle) (f : Nat) (h : H) (res x : Ref) (xs : List Ref) :
    copyChunks ω (f + 1) h res (x :: xs) =
      fillStep res (fun h e => addChunk ω h res e) (fun h => copyChunks ω f h res xs) (copy ω f h x) := by
  rw [copyChunks]; rfl

/-- `T` is the container with the members it has so far, `cp` the outcome of copying the next member; `hpush` says that handing
the member over either fails without a trace, or leaves a heap from which the rest of the loop does its job -/
theorem fillStep_spec {S : H → Prop} {h : H} {res : Nat} {T t : Item} {push : H → Ref → Bool × H} {loop : H → Option Ref × H}
    {cp : Option Ref × H} (hT : Own T h res res h.cells.length) (hcp : CopyPost t h cp)
    (hpush : ∀ (h1 : H) (e : Nat), Keeps h.cells.length h h1 → Own t h1 e h.cells.length h1.cells.length →
      ((push h1 e).1 = false ∧ (push h1 e).2.cells = h1.cells ∧ (push h1 e).2.fault = h1.fault) ∨
      ((push h1 e).1 = true ∧ Keeps res h1 ((push h1 e).2.decref e) ∧
        ContPost S res ((push h1 e).2.decref e) (loop ((push h1 e).2.decref e)))) :
    ContPost S res h (fillStep res push loop cp) := by
  obtain ⟨o, h1⟩ := cp
  have k1 : Keeps h.cells.length h h1 := hcp.keeps
  have hb := own_lt hT
  have hl1 := k1.len
  have kr : Keeps res h h1 := k1.mono (by omega)
  cases o with
  | none => exact ContPost.fail kr (hdecref_own (k1.own hT (Nat.le_refl _)) k1.len) hcp.refused
  | some e =>
    have he := hcp.granted
    have hrel := hpush h1 e k1 he
    simp only [fillStep]
    cases hpp : push h1 e with
    | mk ok h2 =>
      rw [hpp] at hrel
      rcases hrel with ⟨hb', hc2, hf2⟩ | ⟨hb', k2, hp⟩
      · simp only at hb' hc2 hf2
        subst hb'
        have k2 : Keeps h1.cells.length h1 h2 := Keeps.of_cells hc2 hf2
        have hl2 : h2.cells.length = h1.cells.length := by rw [hc2]
        have Fa := hdecref_own (k2.own he (Nat.le_refl _)) (Nat.le_of_eq hl2.symm)
        have Fb := Fa.then_release_before ((k1.trans (k2.mono k1.len)).own hT (Nat.le_refl _)) (by omega) k1.len
        exact ContPost.fail (kr.trans (k2.mono (by omega))) Fb (fun x hx => get_none_of_ge h2 x (by omega))
      · simp only at hb' k2 hp
        subst hb'
        exact hp.rebase (kr.trans k2)

/-- (the failure clauses of `CopyPost` and of `ContPost … h.cells.length` are the same proposition, so `ContPost.fail` proves both) -/
theorem copyPost_of_new {t : Item} {n : Node} {h : H} {r : Option Ref × H} (hn : NewPost n h r)
    (hown : ∀ (h' : H) (y : Nat), h'.get y = some ⟨n, 1⟩ → Own t h' y y (y + 1)) : CopyPost t h r := by
  obtain ⟨o, h1⟩ := r
  cases o with
  | none =>
    obtain ⟨hc1, hf1⟩ := hn.refused rfl
    exact ContPost.fail (S := fun _ => True) (Keeps.of_cells hc1 hf1) (Freed.empty h1 _)
      (fun x hx => by rw [get_congr hc1]; exact get_none_of_ge h x hx)
  | some e =>
    obtain ⟨rfl, hc1, hf1⟩ := hn.granted
    have hl1 : h1.cells.length = h.cells.length + 1 := by rw [hc1]; simp
    refine ⟨hf1, by simp only [hl1]; omega, fun x hx => get_snoc_other hc1 x (by omega), ?_⟩
    show Own t h1 h.cells.length h.cells.length h1.cells.length
    rw [hl1]; exact hown h1 _ (get_snoc_same hc1)

theorem copy_str_spec {ω : Oracle} {f : Nat} {h : H} {x : Ref} {t : Bool} {b : List UInt8} {rc : Nat}
    (hg : h.get x = some ⟨.str t b, rc⟩) : CopyPost ((if t then Item.text else Item.bytes) b) h (copy ω (f + 1) h x) := by
  have : copy ω (f + 1) h x = new2 ω h (.str t b) := by unfold copy; rw [hg]
  rw [this]
  exact copyPost_of_new (new2_post ω h _) (fun h' y hy => own_str.mpr ⟨rfl, rfl, hy⟩)

/-- what `copy` does once the container has been allocated -/
def bindNew (r : Option Ref × H) (k : Ref → H → Option Ref × H) : Option Ref × H :=
  match r with
  | (none, h) => (none, h)
  | (some res, h) => k res h

theorem ContPost.of_new {S : H → Prop} {n : Node} {h : H} {r : Option Ref × H} {k : Ref → H → Option Ref × H} (hn : NewPost n h r)
    (hk : ∀ h1 : H, Keeps h.cells.length h h1 → h1.get h.cells.length = some ⟨n, 1⟩ → h1.cells.length = h.cells.length + 1 →
      ContPost S h.cells.length h1 (k h.cells.length h1)) :
    ContPost S h.cells.length h (bindNew r k) := by
  obtain ⟨o, h1⟩ := r
  cases o with
  | none =>
    obtain ⟨hc1, hf1⟩ := hn.refused rfl
    exact ContPost.fail (Keeps.of_cells hc1 hf1) (Freed.empty h1 _) (fun x hx => by rw [get_congr hc1]; exact get_none_of_ge h x hx)
  | some res =>
    obtain ⟨rfl, hc1, hf1⟩ := hn.granted
    exact (hk h1 (Keeps.snoc hf1 hc1) (get_snoc_same hc1) (by simp [hc1])).rebase (Keeps.snoc hf1 hc1)

theorem copyPost_of_cont {S : H → Prop} {T : Item} {h : H} {r : Option Ref × H} (hp : ContPost S h.cells.length h r)
    (hown : ∀ h' : H, S h' → Own T h' h.cells.length h.cells.length h'.cells.length) : CopyPost T h r := by
  obtain ⟨o, h1⟩ := r
  obtain ⟨a, b, c, d⟩ := hp
  refine ⟨a, b, c, ?_⟩
  cases o with
  | none => exact d
  | some y =>
    obtain ⟨e, hs⟩ := d
    subst e
    exact hown h1 hs

/-- the specification of `copy` for one tree: `h0` is the heap in which the source was described, `h` any later heap in which
all live cells of `h0` are still as they were -/
def CopyOk (ω : Oracle) (h0 : H) (t : Item) : Prop :=
  ∀ (f : Nat) (h : H) (x : Ref), Ext h0 h → Den t h0 x → need t ≤ f → CopyPost t h (copy ω f h x)

theorem copyChunks_spec (ω : Oracle) (h0 : H) (t : Bool) : ∀ (cs : List (List UInt8)) (f : Nat) (h : H) (res : Nat) (xs : List Ref)
    (cs0 : List (List UInt8)) (rs0 : List Ref) (cap : Nat),
    Ext h0 h → h0.get res = none → DenChunks t cs h0 xs → cs.length + 1 ≤ f →
    h.get res = some ⟨.strI t rs0 cap, 1⟩ → OwnChunks t cs0 h rs0 (res + 1) h.cells.length →
    ContPost (StrI t (cs0 ++ cs) res) res h (copyChunks ω f h res xs)
  | [], f, h, res, [], cs0, rs0, cap, _, _, _, hf, hg, ho => by
    cases f with
    | zero => omega
    | succ f =>
      unfold copyChunks
      refine ⟨rfl, Nat.le_refl _, fun _ _ => rfl, rfl, rs0, cap, hg, ?_⟩
      rw [List.append_nil]; exact ho
  | [], _, _, _, _ :: _, _, _, _, _, _, hd, _, _, _ | _ :: _, _, _, _, [], _, _, _, _, _, hd, _, _, _ => hd.elim
  | b :: bs, f, h, res, x :: xs, cs0, rs0, cap, hext, hres0, hden, hf, hg, ho => by
    obtain ⟨⟨rc, hgx0⟩, hden'⟩ := hden
    simp only [List.length_cons] at hf
    cases f with
    | zero => omega
    | succ f =>
    cases f with
    | zero => omega
    | succ f =>
      rw [copyChunks_cons]
      refine fillStep_spec (StrI.own ⟨rs0, cap, hg, ho⟩) (copy_str_spec (hext _ _ hgx0)) (fun h1 e k1 he => ?_)
      obtain ⟨rfl, _, hge⟩ := own_str.mp he
      have hresl : res < h.cells.length := get_lt hg
      rcases addChunk_release ω ((k1.old res hresl).trans hg) hge (by omega) with hfail | ⟨hb, cap', _, hu⟩
      · exact Or.inl hfail
      · refine Or.inr ⟨hb, hu.keeps (Nat.le_refl _), ?_⟩
        have ho3 := hu.ownList_append (k1.ownList ((ownChunks_iff t cs0 rs0 _ _).mp ho) (Nat.le_refl _)) (ownList_single he)
        rw [← List.map_singleton, ← List.map_append, ← ownChunks_iff] at ho3
        have ih := copyChunks_spec ω h0 t bs (f + 1) _ res xs (cs0 ++ [b]) (rs0 ++ [h.cells.length]) cap'
          (hu.ext (k1.ext hext) hres0) hres0 hden' (by omega) hu.cell ho3
        rwa [List.append_assoc] at ih

theorem copy_strI_spec (ω : Oracle) (h0 : H) (t : Bool) (cs : List (List UInt8)) (f : Nat) (h : H) (x : Ref) (hext : Ext h0 h)
    (rs : List Ref) (cap rc : Nat) (hg0 : h0.get x = some ⟨.strI t rs cap, rc⟩) (hden : DenChunks t cs h0 rs) (hf : cs.length + 2 ≤ f) :
    ContPost (StrI t cs h.cells.length) h.cells.length h (copy ω f h x) := by
  cases f with
  | zero => omega
  | succ f =>
    have : copy ω (f + 1) h x = bindNew (new2 ω h (.strI t [] 0)) (fun res h => copyChunks ω f h res rs) := by
      unfold copy; rw [hext _ _ hg0]; rfl
    rw [this]
    refine ContPost.of_new (new2_post ω h _) (fun h1 k1 hg1 hl1 => ?_)
    exact copyChunks_spec ω h0 t cs f h1 h.cells.length rs [] [] 0 (k1.ext hext) (ext_fresh hext) hden (by omega) hg1
      (by simp only [OwnChunks]; omega)

theorem copyItems_ok (ω : Oracle) (h0 : H) : ∀ (ts : List Item), (∀ t ∈ ts, CopyOk ω h0 t) → ∀ (f : Nat) (h : H) (res : Nat)
    (xs : List Ref) (d : Bool) (ts0 : List Item) (items0 : List Ref) (al : Nat),
    Ext h0 h → h0.get res = none → DenList ts h0 xs → needL ts ≤ f →
    h.get res = some ⟨.arr d items0 al, 1⟩ → OwnList ts0 h items0 (res + 1) h.cells.length →
    (d = true → items0.length + ts.length ≤ al) → ContPost (Arr d (ts0 ++ ts) res) res h (copyItems ω f h res xs)
  | [], _, f, h, res, [], d, ts0, items0, al, _, _, _, hf, hg, ho, _ => by
    simp only [needL] at hf
    cases f with
    | zero => omega
    | succ f =>
      unfold copyItems
      exact ⟨rfl, Nat.le_refl _, fun _ _ => rfl, rfl, items0, al, hg, by rw [List.append_nil]; exact ho⟩
  | [], _, _, _, _, _ :: _, _, _, _, _, _, _, hd, _, _, _, _ | _ :: _, _, _, _, _, [], _, _, _, _, _, _, hd, _, _, _, _ => hd.elim
  | t :: ts, IH, f, h, res, x :: xs, d, ts0, items0, al, hext, hres0, hd, hf, hg, ho, hal => by
    obtain ⟨hdx, hdxs⟩ := hd
    simp only [needL] at hf
    simp only [List.length_cons] at hal
    cases f with
    | zero => omega
    | succ f =>
      rw [copyItems_cons]
      refine fillStep_spec (Arr.own ⟨items0, al, hg, ho⟩) (IH t List.mem_cons_self f h x hext hdx (by omega)) (fun h1 e k1 he => ?_)
      have hb := own_lt he
      obtain ⟨n, hge⟩ := own_root he
      have hresl : res < h.cells.length := get_lt hg
      rcases arrPush_release ω ((k1.old res hresl).trans hg) hge (by omega) (fun hd => by have := hal hd; omega) with
        hfail | ⟨hb', al', _, hal', hu⟩
      · exact Or.inl hfail
      · refine Or.inr ⟨hb', hu.keeps (Nat.le_refl _), ?_⟩
        have ih := copyItems_ok ω h0 ts (fun t ht => IH t (List.mem_cons_of_mem _ ht)) f _ res xs d (ts0 ++ [t]) (items0 ++ [e]) al'
          (hu.ext (k1.ext hext) hres0) hres0 hdxs (by omega) hu.cell (hu.ownList_append (k1.ownList ho (Nat.le_refl _)) (ownList_single he))
          (fun hd => by
            have := hal hd; have := hal' hd
            simp only [List.length_append, List.length_cons, List.length_nil]; omega)
        rwa [List.append_assoc] at ih

theorem copy_arr_spec (ω : Oracle) (h0 : H) (d : Bool) (ts : List Item) (IH : ∀ t ∈ ts, CopyOk ω h0 t)
    (f : Nat) (h : H) (x : Ref) (hext : Ext h0 h) (xs : List Ref) (al rc : Nat)
    (hg0 : h0.get x = some ⟨.arr d xs al, rc⟩) (hden : DenList ts h0 xs) (hf : 1 + needL ts ≤ f) :
    ContPost (Arr d ts h.cells.length) h.cells.length h (copy ω f h x) := by
  cases f with
  | zero => omega
  | succ f =>
    have hlen := denList_length ts xs hden
    have : copy ω (f + 1) h x = bindNew (if d then newMulti ω h 8 xs.length (.arr true [] xs.length) else new1 ω h (.arr false [] 0))
        (fun res h => copyItems ω f h res xs) := by
      unfold copy; rw [hext _ _ hg0]; rfl
    rw [this]
    have hn : NewPost (.arr d [] (if d then xs.length else 0)) h
        (if d then newMulti ω h 8 xs.length (.arr true [] xs.length) else new1 ω h (.arr false [] 0)) := by
      cases d
      · exact new1_post ω h _
      · exact newMulti_post ω h _ _ _
    refine ContPost.of_new hn (fun h1 k1 hg1 hl1 => ?_)
    exact copyItems_ok ω h0 ts IH f h1 h.cells.length xs d [] [] _ (k1.ext hext) (ext_fresh hext) hden (by omega) hg1
      (ownList_nil.mpr ⟨rfl, hl1.symm⟩) (fun hd => by simp [hd, hlen])

theorem copyPairs_ok (ω : Oracle) (h0 : H) : ∀ (ps : List (Item × Item)), (∀ t ∈ ps.flatMap (fun kv => [kv.1, kv.2]), CopyOk ω h0 t) →
    ∀ (f : Nat) (h : H) (res : Nat) (rs : List (Ref × Ref)) (d : Bool) (ps0 : List (Item × Item)) (rs0 : List (Ref × Ref)) (al : Nat),
    Ext h0 h → h0.get res = none → DenPairs ps h0 rs → needP ps ≤ f →
    h.get res = some ⟨.map d rs0 al, 1⟩ → OwnPairs ps0 h rs0 (res + 1) h.cells.length →
    (d = true → rs0.length + ps.length ≤ al) → ContPost (MapC d (ps0 ++ ps) res) res h (copyPairs ω f h res rs)
  | [], _, f, h, res, [], d, ps0, rs0, al, _, _, _, hf, hg, ho, _ => by
    simp only [needP] at hf
    cases f with
    | zero => omega
    | succ f =>
      unfold copyPairs
      exact ⟨rfl, Nat.le_refl _, fun _ _ => rfl, rfl, rs0, al, hg, by rw [List.append_nil]; exact ho⟩
  | [], _, _, _, _, _ :: _, _, _, _, _, _, _, hd, _, _, _, _ | _ :: _, _, _, _, _, [], _, _, _, _, _, _, hd, _, _, _, _ => hd.elim
  | (k, v) :: ps, IH, f, h, res, (a, b) :: rs, d, ps0, rs0, al, hext, hres0, hd, hf, hg, ho, hal => by
    obtain ⟨hda, hdb, hdrs⟩ := hd
    simp only [needP] at hf
    simp only [List.length_cons] at hal
    cases f with
    | zero => omega
    | succ f =>
    have hresl : res < h.cells.length := get_lt hg
    have hT := MapC.own ⟨rs0, al, hg, ho⟩
    unfold copyPairs
    have hk := IH k (by simp) f h a hext hda (by omega)
    cases hn : copy ω f h a with
    | mk o h1 =>
    rw [hn] at hk
    have k1 : Keeps h.cells.length h h1 := hk.keeps
    have hl1 := k1.len
    cases o with
    | none => exact ContPost.fail (k1.mono (by omega)) (hdecref_own (k1.own hT (Nat.le_refl _)) hl1) hk.refused
    | some kc =>
      have hK := hk.granted
      have hv := IH v (by simp) f h1 b (k1.ext hext) hdb (by omega)
      simp only
      cases hn2 : copy ω f h1 b with
      | mk o2 h2 =>
      rw [hn2] at hv
      have k2 : Keeps h1.cells.length h1 h2 := hv.keeps
      have hl2 := k2.len
      have k12 : Keeps h.cells.length h h2 := k1.trans (k2.mono hl1)
      have hbk := own_lt hK
      -- releasing the container and then the copy of the key, in any heap that still reads like `h2`
      have F1 : ∀ X : H, Keeps h2.cells.length h2 X → Freed X ((X.decref res).decref kc) res h1.cells.length := fun X kX =>
        (hdecref_own (kX.own (k12.own hT (Nat.le_refl _)) (by omega)) (by have := kX.len; omega)).then_release
          (kX.own (k2.own hK (Nat.le_refl _)) hl2) (by have := kX.len; omega) (by omega)
      cases o2 with
      | none => exact ContPost.fail (k12.mono (by omega)) (F1 h2 (Keeps.refl _ _)) hv.refused
      | some vc =>
        have hV := hv.granted
        have hbv := own_lt hV
        obtain ⟨nk, hgk⟩ := own_root (k2.own hK (Nat.le_refl _))
        obtain ⟨nv, hgv⟩ := own_root hV
        have hrel := mapAdd_release ω ((k12.old res hresl).trans hg) hgk hgv (by omega) (by omega) (by omega)
          (fun hd => by have := hal hd; omega)
        simp only
        cases hpp : mapAdd ω h2 res kc vc with
        | mk ok h3 =>
          rw [hpp] at hrel
          rcases hrel with ⟨hb', hc3, hf3⟩ | ⟨hb', al', _, hal', hu⟩
          · simp only at hb' hc3 hf3
            subst hb'
            have k3 : Keeps h2.cells.length h2 h3 := Keeps.of_cells hc3 hf3
            have hl3 : h3.cells.length = h2.cells.length := by rw [hc3]
            have F3 := (F1 h3 k3).then_release (k3.own hV (Nat.le_refl _)) (Nat.le_of_eq hl3.symm) (by omega)
            exact ContPost.fail ((k12.mono (by omega)).trans (k3.mono (by omega))) F3 (fun x hx => get_none_of_ge h3 x (by omega))
          · simp only at hb' hu
            subst hb'
            have ho5 : OwnPairs (ps0 ++ [(k, v)]) ((h3.decref kc).decref vc) (rs0 ++ [(kc, vc)]) (res + 1)
                ((h3.decref kc).decref vc).cells.length := by
              rw [ownPairs_iff, List.flatMap_append, List.flatMap_append]
              exact hu.ownList_append (k12.ownList ((ownPairs_iff ps0 rs0 _ _).mp ho) (Nat.le_refl _))
                (ownList_cons.mpr ⟨kc, [vc], _, rfl, k2.own hK (Nat.le_refl _), ownList_single hV⟩)
            have ih := copyPairs_ok ω h0 ps (fun t ht => IH t (by simp [ht])) f _ res rs d (ps0 ++ [(k, v)]) (rs0 ++ [(kc, vc)]) al'
              (hu.ext (k12.ext hext) hres0) hres0 hdrs (by omega) hu.cell ho5
              (fun hd => by
                have := hal hd; have := hal' hd
                simp only [List.length_append, List.length_cons, List.length_nil]; omega)
            rw [List.append_assoc] at ih
            exact ih.rebase ((k12.mono (by omega)).trans (hu.keeps (Nat.le_refl _)))

theorem copy_map_spec (ω : Oracle) (h0 : H) (d : Bool) (ps : List (Item × Item))
    (IH : ∀ t ∈ ps.flatMap (fun kv => [kv.1, kv.2]), CopyOk ω h0 t)
    (f : Nat) (h : H) (x : Ref) (hext : Ext h0 h) (rs : List (Ref × Ref)) (al rc : Nat)
    (hg0 : h0.get x = some ⟨.map d rs al, rc⟩) (hden : DenPairs ps h0 rs) (hf : 1 + needP ps ≤ f) :
    ContPost (MapC d ps h.cells.length) h.cells.length h (copy ω f h x) := by
  cases f with
  | zero => omega
  | succ f =>
    have hlen := denPairs_length ps rs hden
    have : copy ω (f + 1) h x = bindNew (if d then newMulti ω h 16 rs.length (.map true [] rs.length) else new1 ω h (.map false [] 0))
        (fun res h => copyPairs ω f h res rs) := by
      unfold copy; rw [hext _ _ hg0]; rfl
    rw [this]
    have hn : NewPost (.map d [] (if d then rs.length else 0)) h
        (if d then newMulti ω h 16 rs.length (.map true [] rs.length) else new1 ω h (.map false [] 0)) := by
      cases d
      · exact new1_post ω h _
      · exact newMulti_post ω h _ _ _
    refine ContPost.of_new hn (fun h1 k1 hg1 hl1 => ?_)
    exact copyPairs_ok ω h0 ps IH f h1 h.cells.length rs d [] [] _ (k1.ext hext) (ext_fresh hext) hden (by omega) hg1
      ((ownPairs_iff [] [] _ _).mpr (ownList_nil.mpr ⟨rfl, hl1.symm⟩)) (fun hd => by simp [hd, hlen])

/-! ### a tag: the content first, then `cbor_build_tag` -/

theorem copy_tag_spec (ω : Oracle) (h0 : H) (n : Nat) (t : Item) (IHt : CopyOk ω h0 t)
    (f : Nat) (h : H) (x : Ref) (hext : Ext h0 h) (y : Ref) (rc : Nat)
    (hg0 : h0.get x = some ⟨.tag n (some y), rc⟩) (hden : Den t h0 y) (hf : 1 + need t ≤ f) :
    CopyPost (.tag n t) h (copy ω f h x) := by
  cases f with
  | zero => omega
  | succ f =>
    unfold copy; rw [hext _ _ hg0]
    simp only
    have hx := IHt f h y hext hden (by omega)
    cases hn : copy ω f h y with
    | mk o h1 =>
      rw [hn] at hx
      cases o with
      | none => exact hx
      | some xc =>
        have k1 : Keeps h.cells.length h h1 := hx.keeps
        have hpost := hx.granted
        have hb := own_lt hpost
        obtain ⟨nd, hge⟩ := own_root hpost
        have hrel := buildTag_release ω n hge
        simp only
        cases hbt : buildTag ω h1 n xc with
        | mk o2 h2 =>
          rw [hbt] at hrel
          rcases hrel with ⟨ho2, hc2, hf2⟩ | ⟨ho2, hf4, hl4, hg4, hold4⟩
          · simp only at ho2 hc2 hf2
            subst ho2
            have k2 : Keeps h1.cells.length h1 h2 := Keeps.of_cells hc2 hf2
            exact ContPost.fail (S := fun _ => True) (k1.trans (k2.mono k1.len))
              (hdecref_own (k2.own hpost (Nat.le_refl _)) (by rw [hc2]; exact Nat.le_refl _))
              (fun x hx => get_none_of_ge h2 x (by rw [hc2]; exact hx))
          · simp only at ho2 hf4 hl4 hg4 hold4
            subst ho2
            refine ⟨hf4.trans k1.fault, by simp only [hl4]; omega, fun x hx => by rw [hold4 x (by omega)]; exact k1.old x hx, ?_⟩
            show Own (.tag n t) (h2.decref xc) h1.cells.length h.cells.length (h2.decref xc).cells.length
            rw [hl4]
            exact ⟨xc, h.cells.length, h1.cells.length, hg4, Around.last _ _,
              own_congr (fun r _ hr => hold4 r (by omega)) hpost⟩

/-- C11: `cbor_copy` builds an exclusively owned, equal tree — or releases everything (`CopyOk ω h0 t`, for every tree) -/
theorem copy_spec (ω : Oracle) (h0 : H) :
    ∀ (t : Item) (f : Nat) (h : H) (x : Ref), (∀ r c, h0.get r = some c → h.get r = some c) → Den t h0 x → need t ≤ f →
      CopyPost t h (copy ω f h x) := by
  intro t
  induction t using kids_ind with
  | step t IH =>
    intro f h x hext hd hf
    cases t with
    | uint _ _ | negint _ _ | simple _ | half _ | single _ | double _ =>
      obtain ⟨rc, hg0⟩ := hd
      cases f with
      | zero => simp only [need] at hf; omega
      | succ f =>
        unfold copy; rw [hext _ _ hg0]
        exact copyPost_of_new (new1_post ω h _) (fun h' y hy => ⟨rfl, rfl, hy⟩)
    | bytes b | text b =>
      obtain ⟨rc, hg0⟩ := hd
      cases f with
      | zero => simp only [need] at hf; omega
      | succ f => exact copy_str_spec (hext _ _ hg0)
    | bytesI cs | textI cs =>
      obtain ⟨rs, cap, rc, hg0, hden⟩ := hd
      simp only [need] at hf
      exact copyPost_of_cont (copy_strI_spec ω h0 _ cs f h x hext rs cap rc hg0 hden hf) (fun _ hs => hs.own)
    | array ts | arrayI ts =>
      obtain ⟨xs, al, rc, hg0, hden⟩ := hd
      simp only [need] at hf
      exact copyPost_of_cont (copy_arr_spec ω h0 _ ts IH f h x hext xs al rc hg0 hden hf) (fun _ hs => hs.own)
    | map ps | mapI ps =>
      obtain ⟨rs, al, rc, hg0, hden⟩ := hd
      simp only [need] at hf
      exact copyPost_of_cont (copy_map_spec ω h0 _ ps IH f h x hext rs al rc hg0 hden hf) (fun _ hs => hs.own)
    | tag n t =>
      obtain ⟨y, rc, hg0, hden⟩ := hd
      simp only [need] at hf
      exact copy_tag_spec ω h0 n t (IH t List.mem_cons_self) f h x hext y rc hg0 hden hf

theorem copyItems_spec (ω : Oracle) (h0 : H) : ∀ (ts : List Item) (f : Nat) (h : H) (res : Nat) (xs : List Ref) (d : Bool)
    (ts0 : List Item) (items0 : List Ref) (al : Nat),
    (∀ r c, h0.get r = some c → h.get r = some c) → h0.get res = none → DenList ts h0 xs → needL ts ≤ f →
    h.get res = some ⟨.arr d items0 al, 1⟩ → OwnList ts0 h items0 (res + 1) h.cells.length →
    (d = true → items0.length + ts.length ≤ al) → ContPost (Arr d (ts0 ++ ts) res) res h (copyItems ω f h res xs) :=
  fun ts => copyItems_ok ω h0 ts (fun t _ => copy_spec ω h0 t)

theorem copyPairs_spec (ω : Oracle) (h0 : H) : ∀ (ps : List (Item × Item)) (f : Nat) (h : H) (res : Nat) (rs : List (Ref × Ref)) (d : Bool)
    (ps0 : List (Item × Item)) (rs0 : List (Ref × Ref)) (al : Nat),
    (∀ r c, h0.get r = some c → h.get r = some c) → h0.get res = none → DenPairs ps h0 rs → needP ps ≤ f →
    h.get res = some ⟨.map d rs0 al, 1⟩ → OwnPairs ps0 h rs0 (res + 1) h.cells.length →
    (d = true → rs0.length + ps.length ≤ al) → ContPost (MapC d (ps0 ++ ps) res) res h (copyPairs ω f h res rs) :=
  fun ps => copyPairs_ok ω h0 ps (fun t _ => copy_spec ω h0 t)

theorem copy_spec_top (ω : Oracle) (t : Item) (f : Nat) (h : H) (x : Ref) (hd : Den t h x) (hf : need t ≤ f) :
    CopyPost t h (copy ω f h x) :=
  copy_spec ω h t f h x (fun _ _ hg => hg) hd hf

end Heap
