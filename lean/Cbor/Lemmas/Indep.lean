import Cbor.Lemmas.Own
/-! Releasing an old item touches old cells only: what makes a copy independent of its source.  And, for comparing the heap
after a failed copy with the heap before it: two heaps that read alike hold the same live blocks. -/
namespace Heap

/-- `cbor_decref` of an item below `N`, in a heap whose cells below `N` refer below `N` only, leaves every cell from `N` on untouched -/
theorem decref_below {N : Nat} : ∀ (f : Nat) (h : H) (x : Nat), Closed N h → x < N → ∀ r, N ≤ r → (decref f h x).get r = h.get r
  | 0, _, _, _, _ => fun _ _ => rfl
  | f+1, h, x, hc, hx => by
    intro r hr
    unfold decref
    cases hg : h.get x with
    | none => rfl
    | some c =>
      simp only
      split
      · rfl
      · split
        · have key : ∀ (xs : List Ref) (h1 : H), Closed N h1 → (∀ y ∈ xs, y < N) → (xs.foldl (decref f) h1).get r = h1.get r := by
            intro xs
            induction xs with
            | nil => intro h1 _ _; rfl
            | cons y ys ih =>
              intro h1 hc1 hy
              simp only [List.foldl_cons]
              rw [ih _ (closed_of_shrinks hc1 (decref_shrinks f h1 y)) (fun z hz => hy z (by simp [hz]))]
              exact decref_below f h1 y hc1 (hy y (by simp)) r hr
          rw [key _ _ (closed_of_shrinks hc (shrinks_put_none h x)) (hc x c hx hg)]
          exact get_put_ne h x r none (by omega)
        · exact get_put_ne h x r _ (by omega)

theorem cells_eq_append_nones {h h' : H} (hlen : h.cells.length ≤ h'.cells.length)
    (hold : ∀ r, r < h.cells.length → h'.get r = h.get r) (hnew : ∀ r, h.cells.length ≤ r → h'.get r = none) :
    h'.cells = h.cells ++ List.replicate (h'.cells.length - h.cells.length) none := by
  apply List.ext_getElem?
  intro i
  by_cases hi : i < h.cells.length
  · rw [List.getElem?_append_left hi]
    have e := hold i hi
    have hi' : i < h'.cells.length := by omega
    simp only [H.get, List.getElem?_eq_getElem hi, List.getElem?_eq_getElem hi', Option.join_some] at e
    rw [List.getElem?_eq_getElem hi, List.getElem?_eq_getElem hi', e]
  · rw [List.getElem?_append_right (by omega)]
    by_cases hi' : i < h'.cells.length
    · have e := hnew i (by omega)
      simp only [H.get, List.getElem?_eq_getElem hi', Option.join_some] at e
      rw [List.getElem?_eq_getElem hi', e, List.getElem?_replicate]
      simp; omega
    · rw [List.getElem?_eq_none (by omega), List.getElem?_eq_none (by simp; omega)]

def blocksOf : Option Cell → Nat
  | some c => c.node.blocks
  | none => 0

theorem liveBlocks_eq (h : H) : h.liveBlocks = (h.cells.map blocksOf).sum := by
  unfold H.liveBlocks
  congr 1

theorem liveBlocks_append_nones (l : List (Option Cell)) (k : Nat) :
    ((l ++ List.replicate k none).map blocksOf).sum = (l.map blocksOf).sum := by
  simp [blocksOf]

theorem liveCells_append_nones (l : List (Option Cell)) (k : Nat) :
    ((l ++ List.replicate k none).filter Option.isSome).length = (l.filter Option.isSome).length := by
  simp

theorem liveBlocks_of_get_eq {h h' : H} (e : ∀ r : Nat, h'.get r = h.get r) : h'.liveBlocks = h.liveBlocks := by
  have key : ∀ a b : H, a.cells.length ≤ b.cells.length → (∀ r : Nat, b.get r = a.get r) → b.liveBlocks = a.liveBlocks := by
    intro a b hle e
    rw [liveBlocks_eq, liveBlocks_eq, cells_eq_append_nones hle (fun r _ => e r) (fun r hr => (e r).trans (get_none_of_ge a r hr)),
      liveBlocks_append_nones]
  rcases Nat.le_total h.cells.length h'.cells.length with hle | hle
  · exact key h h' hle e
  · exact (key h' h hle (fun r => (e r).symm)).symm

end Heap
