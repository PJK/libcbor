import Cbor.Gen.Unicode
import Cbor.Spec.Utf8
import Cbor.Lemmas.Tactics
/-!
The generated UTF-8 counting loop (`Gen._cbor_unicode_codepoint_count`, table `Gen.utf8d`) against the
RFC 3629 grammar `Spec.Utf8`.

1. the 400-entry table realises the readable automaton `delta` — `decide +kernel` over all 9 × 256 pairs;
2. the generated loop equals a hand-written loop `refLoop` (`count_eq_ref`), which is a run of `delta` over the bytes
   (`refLoop_run`, induction on the remaining length);
3. runs of `delta` from the accept state count exactly the `UTF8-char`s of the grammar (induction on length).
-/
set_option linter.unusedSimpArgs false
namespace Lemmas.Utf8
open Gen Spec.Utf8

/-- the readable automaton: state 0 = between characters, 1 = reject, 2/3 = one/two continuation bytes
outstanding, 4/5 = after E0 / ED, 6/7/8 = after F0 / F1–F3 / F4 -/
def delta (s b : Nat) : Nat :=
  match s with
  | 0 => if b ≤ 0x7F then 0 else if 0xC2 ≤ b && b ≤ 0xDF then 2 else if b = 0xE0 then 4
         else if (0xE1 ≤ b && b ≤ 0xEC) || (0xEE ≤ b && b ≤ 0xEF) then 3 else if b = 0xED then 5
         else if b = 0xF0 then 6 else if 0xF1 ≤ b && b ≤ 0xF3 then 7 else if b = 0xF4 then 8 else 1
  | 2 => if tail b then 0 else 1
  | 3 => if tail b then 2 else 1
  | 4 => if 0xA0 ≤ b && b ≤ 0xBF then 2 else 1
  | 5 => if 0x80 ≤ b && b ≤ 0x9F then 2 else 1
  | 6 => if 0x90 ≤ b && b ≤ 0xBF then 3 else 1
  | 7 => if tail b then 3 else 1
  | 8 => if 0x80 ≤ b && b ≤ 0x8F then 3 else 1
  | _ => 1

/-- complete check of the generated table: class of every byte ≤ 11, and every transition = `delta` -/
def tableOk : Bool :=
  (List.range 9).all fun s => (List.range 256).all fun b =>
    (utf8d b).toNat ≤ 11 && (utf8d (256 + s * 16 + (utf8d b).toNat)).toNat == delta s b

theorem tableOk_true : tableOk = true := by decide +kernel

theorem table (s : Nat) (hs : s < 9) (b : Nat) (hb : b < 256) :
    (utf8d b).toNat ≤ 11 ∧ (utf8d (256 + s * 16 + (utf8d b).toNat)).toNat = delta s b := by
  have h := tableOk_true
  unfold tableOk at h
  rw [List.all_eq_true] at h
  have h1 := h s (List.mem_range.mpr hs)
  rw [List.all_eq_true] at h1
  simpa using h1 b (List.mem_range.mpr hb)

theorem ite_lt {c : Prop} [Decidable c] {a b n : Nat} (ha : a < n) (hb : b < n) : (if c then a else b) < n := by
  split <;> assumption

theorem delta_lt (s b : Nat) : delta s b < 9 := by
  unfold delta; split <;> repeat' (first | apply ite_lt | decide)

theorem delta0 (b : Nat) : delta 0 b =
    if b ≤ 0x7F then 0 else if 0xC2 ≤ b && b ≤ 0xDF then 2 else if b = 0xE0 then 4
    else if (0xE1 ≤ b && b ≤ 0xEC) || (0xEE ≤ b && b ≤ 0xEF) then 3 else if b = 0xED then 5
    else if b = 0xF0 then 6 else if 0xF1 ≤ b && b ≤ 0xF3 then 7 else if b = 0xF4 then 8 else 1 := rfl

theorem decode_step (st cp byte : UInt32) (hs : st.toNat < 9) (hb : byte.toNat < 256) :
    (_cbor_unicode_decode st cp byte).1.toNat = delta st.toNat byte.toNat ∧
    (_cbor_unicode_decode st cp byte).2.1 = (_cbor_unicode_decode st cp byte).1 ∧
    _cbor_unicode_decode.ok st cp byte = true := by
  have ht := table st.toNat hs byte.toNat hb
  have ht1 := ht.1
  have ht2 := ht.2
  -- the table fact for *any* index term that equals 256 + 16·state + class (`256 + s*16 + t`, `(s << 4) + t + 256`, …)
  have ht2' : ∀ i, i = 256 + st.toNat * 16 + (utf8d byte.toNat).toNat → (utf8d i).toNat = delta st.toNat byte.toNat := by
    intro i hi; rw [hi]; exact ht2
  -- independent of the spelling of the generated function (conditional expression or if/else for `*codep`, `utf8d[i]` or
  -- `*(utf8d + i)`, explicit casts): every `if` is split, and the index expression, whatever its text, is pushed to `Nat`
  -- where it denotes 256 + 16·state + class
  unfold _cbor_unicode_decode _cbor_unicode_decode.ok
  simp only []
  repeat' split
  all_goals (refine ⟨?_, ?_, ?_⟩)
  all_goals (try rfl)
  all_goals (simp [UInt32.toNat_add, UInt32.toNat_mul, UInt32.toNat_shiftLeft, Nat.shiftLeft_eq] <;> bits_to_arith)
  all_goals (first | exact ht2 | (apply ht2'; omega) | (simpa using ht2) | (cnorm; omega))

def runD : List Nat → Nat → Nat → Option Nat
  | [], st, c => if st = 0 then some c else none
  | b :: bs, st, c =>
    let st' := delta st b
    if st' = 0 then runD bs 0 (c + 1)
    else if st' = 1 then none
    else runD bs st' c

def bl (src : Array UInt8) (off : Nat) : Nat → Nat → List Nat
  | 0, _ => []
  | k+1, pos => (src.getD (off + pos) 0).toNat :: bl src off k (pos + 1)

theorem bl_length (src : Array UInt8) (off k p : Nat) : (bl src off k p).length = k := by
  induction k generalizing p with
  | zero => rfl
  | succ k ih => simp [bl, ih]

theorem u32_eq_zero_iff (x : UInt32) : (x == 0) = true ↔ x.toNat = 0 := by
  constructor
  · intro h; have : x = 0 := by simpa using h
    subst this; rfl
  · intro h; have : x = 0 := UInt32.toNat_inj.mp (by simpa using h)
    subst this; rfl

theorem u32_eq_one_iff (x : UInt32) : (x == 1) = true ↔ x.toNat = 1 := by
  constructor
  · intro h; have : x = 1 := by simpa using h
    subst this; rfl
  · intro h; have : x = 1 := UInt32.toNat_inj.mp (by simpa using h)
    subst this; rfl

/-! ### The counting loop

The generated loop function `_cbor_unicode_codepoint_count.loop0` takes the loop-carried C variables as separate arguments
and returns them as a tuple, so its *signature* changes when a dead variable stops being carried (e.g. `res` declared inside
the loop body).  To keep that out of the induction:

1. `refLoop` / `refCount`: a hand-written reference with a fixed signature; `refLoop_run` (the induction against the
   automaton `runD`) is about it;
2. `count_eq_ref`: the generated function equals the reference (value and side conditions).  Its statement does not
   mention the loop function; its proof contains one signature adapter per known signature of `loop0` (which
   argument / tuple position is state, pos, count), proved by the structural tactic `bridge_tac` — independent
   of the order of the tests, of the orientation of `==`, of `count++` vs `count += 1`, of where `res` is declared;
3. `refCount_run` is `refLoop_run` for the whole string, against `Spec.Utf8.count`; with `count_eq_ref` it is what
   `Props/C16` and `Props/HandleSetters` build on.
-/

/-- hand-written reference loop: same algorithm as the C loop.  The result is `((codepoint, state, pos, count), exit, ok)`:
the carried values, `exit` = 1 for the `goto error` inside the loop, `ok` = the conjunction of the per-iteration side conditions -/
def refLoop (src : Array UInt8) (off : Nat) (len : UInt64) :
    Nat → UInt32 → UInt32 → UInt64 → UInt64 → (UInt32 × UInt32 × UInt64 × UInt64) × Nat × Bool
  | 0, cp, st, pos, count => ((cp, st, pos, count), 0, false)
  | fuel+1, cp, st, pos, count =>
    if pos.toNat < len.toNat then
      let d := _cbor_unicode_decode st cp (src.getD (off + pos.toNat) 0).toUInt32
      let ok := decide (off + pos.toNat < src.size) && _cbor_unicode_decode.ok st cp (src.getD (off + pos.toNat) 0).toUInt32
      if d.1.toNat = 0 then
        let r := refLoop src off len fuel d.2.2 d.2.1 (pos + 1) (count + 1)
        (r.1, r.2.1, r.2.2 && ok)
      else if d.1.toNat = 1 then ((d.2.2, d.2.1, pos, count), 1, ok)
      else
        let r := refLoop src off len fuel d.2.2 d.2.1 (pos + 1) count
        (r.1, r.2.1, r.2.2 && ok)
    else ((cp, st, pos, count), 0, true)

theorem refLoop_run (src : Array UInt8) (off : Nat) (len : UInt64) (hsz : off + len.toNat ≤ src.size) :
    ∀ (k fuel : Nat) (pos : UInt64) (st cp : UInt32) (count : UInt64),
      pos.toNat + k = len.toNat → k < fuel → st.toNat < 9 → count.toNat + k < 2 ^ 64 →
      let r := refLoop src off len fuel cp st pos count
      r.2.2 = true ∧
      (match runD (bl src off k pos.toNat) st.toNat count.toNat with
       | some c => r.2.1 = 0 ∧ r.1.2.1 = 0 ∧ r.1.2.2.2.toNat = c
       | none => r.2.1 = 1 ∨ (r.2.1 = 0 ∧ r.1.2.1 ≠ 0)) := by
  intro k
  induction k with
  | zero =>
    intro fuel pos st cp count hp hf hs hc
    obtain ⟨f, rfl⟩ : ∃ f, fuel = f + 1 := ⟨fuel - 1, by omega⟩
    have hnot : ¬ (pos.toNat < len.toNat) := by omega
    simp only [refLoop, hnot, if_false, bl, runD]
    refine ⟨trivial, ?_⟩
    by_cases h0 : st.toNat = 0
    · have : st = 0 := UInt32.toNat_inj.mp (by simpa using h0)
      simp [h0, this]
    · have : st ≠ 0 := fun h => h0 (by rw [h]; rfl)
      simp [h0, this]
  | succ k ih =>
    intro fuel pos st cp count hp hf hs hc
    obtain ⟨f, rfl⟩ : ∃ f, fuel = f + 1 := ⟨fuel - 1, by omega⟩
    have hlt : pos.toNat < len.toNat := by omega
    have hpos1 : (pos + 1).toNat = pos.toNat + 1 := by
      rw [UInt64.toNat_add]; have := len.toNat_lt; simp; omega
    have hcnt1 : (count + 1).toNat = count.toNat + 1 := by
      rw [UInt64.toNat_add]; simp; omega
    have hin : off + pos.toNat < src.size := by omega
    simp only [refLoop, hlt, if_true, bl, runD]
    generalize src.getD (off + pos.toNat) 0 = B
    have hb : (B.toUInt32).toNat = B.toNat := by simp
    have hb256 : (B.toUInt32).toNat < 256 := by rw [hb]; exact UInt8.toNat_lt _
    obtain ⟨d1, d2, d3⟩ := decode_step st cp B.toUInt32 hs hb256
    rw [hb] at d1
    rw [d2]
    generalize hres : (_cbor_unicode_decode st cp B.toUInt32).1 = rs at d1
    have hdl := delta_lt st.toNat B.toNat
    rw [← d1]
    by_cases h0 : rs.toNat = 0
    · have hrs0 : rs = 0 := UInt32.toNat_inj.mp (by simpa using h0)
      simp only [h0, if_true]
      have := ih f (pos + 1) rs (_cbor_unicode_decode st cp B.toUInt32).2.2 (count + 1) (by omega) (by omega) (by omega) (by omega)
      simp only at this
      rw [hpos1, hcnt1, h0] at this
      obtain ⟨a1, a2⟩ := this
      exact ⟨by simp [a1, hin, d3], a2⟩
    · simp only [h0, if_false]
      by_cases h1 : rs.toNat = 1
      · simp only [h1, if_true]
        exact ⟨by simp [hin, d3], Or.inl (by simp)⟩
      · simp only [h1, if_false]
        have := ih f (pos + 1) rs (_cbor_unicode_decode st cp B.toUInt32).2.2 count (by omega) (by omega) (by omega) (by omega)
        simp only at this
        rw [hpos1] at this
        obtain ⟨a1, a2⟩ := this
        exact ⟨by simp [a1, hin, d3], a2⟩

def refCount (src : Array UInt8) (off : Nat) (len : UInt64) : UInt64 × S__cbor_unicode_status :=
  let q := refLoop src off len (len.toNat + 1) 0 0 0 0
  if q.2.1 = 1 ∨ q.1.2.1.toNat ≠ 0 then (0, { status := 1, location := q.1.2.2.1 })
  else (q.1.2.2.2, { status := 0, location := 0 })

/-- proof of a signature adapter: structural only (one step of each loop unfolded, every `if` split, guards over `Nat`,
recursive calls rewritten with the induction hypothesis).  The decoder call is abstracted and the guards are normalised
before the split: each of the sixteen branches then starts from the normalised form. -/
macro "bridge_tac" : tactic => `(tactic| (
  intro fuel
  induction fuel with
  | zero => intros; simp [_cbor_unicode_codepoint_count.loop0, refLoop]
  | succ f ih =>
    intros
    rw [_cbor_unicode_codepoint_count.loop0, refLoop]
    simp only []
    try generalize _cbor_unicode_decode _ _ _ = d
    try generalize _cbor_unicode_decode.ok _ _ _ = dok
    cnorm
    repeat' split
    all_goals (try omega)
    all_goals cnorm
    all_goals (try omega)
    all_goals (simp [ih, Bool.and_comm, Bool.and_left_comm, Bool.and_assoc])))

macro "adapter_fin" : tactic => `(tactic| (
  unfold _cbor_unicode_codepoint_count _cbor_unicode_codepoint_count.ok refCount
  simp only [*]
  cnorm
  repeat' split
  all_goals (first | (exfalso; omega) | (simp; done) | (cnorm; first | (exfalso; omega) | (simp; done)))))

theorem count_eq_ref (src : Array UInt8) (off : Nat) (len : UInt64) (st0 : S__cbor_unicode_status) :
    _cbor_unicode_codepoint_count src off len st0 = refCount src off len ∧
    _cbor_unicode_codepoint_count.ok src off len st0 = (refLoop src off len (len.toNat + 1) 0 0 0 0).2.2 := by
  first
  | (-- signature A: carried (source_length, codepoint, state, res, pos, count)
     have bridge : ∀ (fuel : Nat) (cp st res : UInt32) (pos count : UInt64),
         (fun r q => r.2.1 = q.2.1 ∧ r.2.2 = q.2.2 ∧ r.1.2.2.1 = q.1.2.1 ∧ r.1.2.2.2.2.1 = q.1.2.2.1 ∧ r.1.2.2.2.2.2 = q.1.2.2.2)
           (_cbor_unicode_codepoint_count.loop0 fuel src off len cp st res pos count)
           (refLoop src off len fuel cp st pos count) := by
       bridge_tac
     obtain ⟨b1, b2, b3, b4, b5⟩ := bridge (len.toNat + 1) 0 0 0 0 0
     adapter_fin)
  | (-- signature B: carried (source_length, codepoint, state, pos, count)
     have bridge : ∀ (fuel : Nat) (cp st : UInt32) (pos count : UInt64),
         (fun r q => r.2.1 = q.2.1 ∧ r.2.2 = q.2.2 ∧ r.1.2.2.1 = q.1.2.1 ∧ r.1.2.2.2.1 = q.1.2.2.1 ∧ r.1.2.2.2.2 = q.1.2.2.2)
           (_cbor_unicode_codepoint_count.loop0 fuel src off len cp st pos count)
           (refLoop src off len fuel cp st pos count) := by
       bridge_tac
     obtain ⟨b1, b2, b3, b4, b5⟩ := bridge (len.toNat + 1) 0 0 0 0
     adapter_fin)

def step (P : Nat → Bool) (k : List Nat → Option (List Nat)) : List Nat → Option (List Nat)
  | b :: r => if P b then k r else none
  | [] => none

/-- the automaton run from state `s` until it is between characters again: what is left of the input at that point
(from the reject state 1 that point is never reached) -/
def complete (s : Nat) (bs : List Nat) : Option (List Nat) :=
  if s = 0 then some bs else
  match bs with
  | [] => none
  | b :: r => complete (delta s b) r

theorem complete_zero : complete 0 = some := by
  funext bs; unfold complete; rfl

theorem complete_reject (bs : List Nat) : complete 1 bs = none := by
  induction bs with
  | nil => rfl
  | cons b r ih => rw [complete, if_neg (by decide)]; exact ih

theorem complete_row {s s' : Nat} {P : Nat → Bool} (hs : s ≠ 0) (hd : ∀ b, delta s b = if P b then s' else 1) :
    complete s = step P (complete s') := by
  funext bs
  unfold complete
  rw [if_neg hs]
  cases bs with
  | nil => rfl
  | cons b r => simp only [hd, step]; cases P b <;> simp [complete_reject]

theorem complete_le {s : Nat} {bs r : List Nat} (h : complete s bs = some r) : r.length ≤ bs.length := by
  induction bs generalizing s with
  | nil =>
    unfold complete at h
    split at h <;> simp_all
  | cons b t ih =>
    unfold complete at h
    split at h
    · simp_all
    · have := ih h; simp; omega

/-- what `runD` does after a byte has led to state `s`: finish the character, then count it -/
theorem run_complete (bs : List Nat) (c : Nat) : ∀ s,
    (if s = 0 then runD bs 0 (c + 1) else if s = 1 then none else runD bs s c) =
      match complete s bs with | none => none | some r => runD r 0 (c + 1) := by
  induction bs with
  | nil => intro s; by_cases h0 : s = 0 <;> by_cases h1 : s = 1 <;> simp [complete, runD, h0, h1]
  | cons b r ih =>
    intro s
    by_cases h0 : s = 0
    · subst h0; simp [complete_zero]
    · have e : complete s (b :: r) = complete (delta s b) r := by rw [complete, if_neg h0]
      rw [e, ← ih, if_neg h0]
      by_cases h1 : s = 1
      · subst h1; simp [delta]
      · rw [if_neg h1]; rfl

/-! the three shapes in which `Spec.Utf8.charRest` asks for the rest of a character, byte by byte -/
theorem rest1 (r : List Nat) :
    (match r with | b1 :: r => if tail b1 then some r else none | _ => none) = step tail some r := by
  cases r <;> rfl

theorem rest2 (P : Nat → Bool) (r : List Nat) :
    (match r with | b1 :: b2 :: r => if P b1 && tail b2 then some r else none | _ => none) =
      step P (step tail some) r := by
  rcases r with _ | ⟨b1, _ | ⟨b2, r⟩⟩ <;> simp only [step]
  · cases P b1 <;> rfl
  · cases P b1 <;> cases tail b2 <;> rfl

theorem rest3 (P : Nat → Bool) (r : List Nat) :
    (match r with | b1 :: b2 :: b3 :: r => if P b1 && tail b2 && tail b3 then some r else none | _ => none) =
      step P (step tail (step tail some)) r := by
  rcases r with _ | ⟨b1, _ | ⟨b2, _ | ⟨b3, r⟩⟩⟩ <;> simp only [step]
  · cases P b1 <;> rfl
  · cases P b1 <;> cases tail b2 <;> rfl
  · cases P b1 <;> cases tail b2 <;> cases tail b3 <;> rfl

/-- the grammar's "strip one character" is: the first byte picks the automaton state, the automaton does the rest -/
theorem charRest_eq (b : Nat) (r : List Nat) : charRest (b :: r) = complete (delta 0 b) r := by
  -- rows 2 and 3 of the automaton, composed down to the accept state; the rows 4 … 8 lead into them
  have r2 : complete 2 = step tail some := by
    rw [complete_row (by decide) (fun _ => rfl), complete_zero]
  have r3 : complete 3 = step tail (step tail some) := by
    rw [complete_row (by decide) (fun _ => rfl), r2]
  -- both sides are the same cascade on the first byte: it is peeled off test by test
  rw [delta0]
  unfold charRest
  by_cases h1 : b ≤ 0x7F
  · simp only [if_pos h1, complete_zero]
  simp only [if_neg h1]
  by_cases h2 : (0xC2 ≤ b && b ≤ 0xDF) = true
  · simp only [if_pos h2, r2]; exact rest1 r
  simp only [if_neg h2]
  by_cases h3 : b = 0xE0
  · simp only [if_pos h3]; rw [complete_row (by decide) (fun _ => rfl), r2]; exact rest2 _ r
  simp only [if_neg h3]
  by_cases h4 : ((0xE1 ≤ b && b ≤ 0xEC) || (0xEE ≤ b && b ≤ 0xEF)) = true
  · simp only [if_pos h4, r3]; exact rest2 _ r
  simp only [if_neg h4]
  by_cases h5 : b = 0xED
  · simp only [if_pos h5]; rw [complete_row (by decide) (fun _ => rfl), r2]; exact rest2 _ r
  simp only [if_neg h5]
  by_cases h6 : b = 0xF0
  · simp only [if_pos h6]; rw [complete_row (by decide) (fun _ => rfl), r3]; exact rest3 _ r
  simp only [if_neg h6]
  by_cases h7 : (0xF1 ≤ b && b ≤ 0xF3) = true
  · simp only [if_pos h7]; rw [complete_row (by decide) (fun _ => rfl), r3]; exact rest3 _ r
  simp only [if_neg h7]
  by_cases h8 : b = 0xF4
  · simp only [if_pos h8]; rw [complete_row (by decide) (fun _ => rfl), r3]; exact rest3 _ r
  simp only [if_neg h8]
  exact (complete_reject r).symm

theorem charRest_len {bs r : List Nat} (h : charRest bs = some r) : r.length < bs.length := by
  cases bs with
  | nil => simp [charRest] at h
  | cons b t => rw [charRest_eq] at h; have := complete_le h; simp; omega

theorem runD_count (n : Nat) : ∀ (bs : List Nat), bs.length ≤ n → ∀ c, runD bs 0 c = (countFuel n bs).map (· + c) := by
  induction n with
  | zero =>
    intro bs h c
    cases bs with
    | nil => simp [runD, countFuel]
    | cons b r => simp at h
  | succ n ih =>
    intro bs h c
    cases bs with
    | nil => simp [runD, countFuel]
    | cons b r =>
      -- a run from between two characters strips one character of the grammar
      have hrun : runD (b :: r) 0 c = match charRest (b :: r) with | none => none | some r' => runD r' 0 (c + 1) := by
        rw [charRest_eq]; exact run_complete r c (delta 0 b)
      rw [hrun]
      simp only [countFuel]
      cases hc : charRest (b :: r) with
      | none => rfl
      | some r' =>
        have := charRest_len hc
        simp only [List.length_cons] at h this
        simp only
        rw [ih r' (by omega) (c + 1)]
        cases countFuel n r' <;> simp; omega

/-- the reference loop, started as the C function starts it, against the grammar -/
theorem refCount_run (src : Array UInt8) (off : Nat) (len : UInt64) (hsz : off + len.toNat ≤ src.size) :
    let r := refLoop src off len (len.toNat + 1) 0 0 0 0
    r.2.2 = true ∧
    (match count (bl src off len.toNat 0) with
     | some c => r.2.1 = 0 ∧ r.1.2.1 = 0 ∧ r.1.2.2.2.toNat = c
     | none => r.2.1 = 1 ∨ (r.2.1 = 0 ∧ r.1.2.1 ≠ 0)) := by
  have hrun := refLoop_run src off len hsz len.toNat (len.toNat + 1) 0 0 0 0 (by simp) (by omega) (by simp)
    (by have := len.toNat_lt; simp; omega)
  simp only [UInt64.toNat_zero, UInt32.toNat_zero] at hrun
  rw [runD_count len.toNat _ (by rw [bl_length]; omega) 0] at hrun
  unfold count
  rw [bl_length]
  simpa using hrun

end Lemmas.Utf8
