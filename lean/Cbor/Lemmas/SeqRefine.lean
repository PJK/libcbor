import Cbor.Props.C12
import Cbor.Lemmas.CountsOps
/-!
# C12 for arbitrary operation sequences: containers refine abstract sequences

`Props/C12.lean` proves what a single push / set / replace / get / add-pair / add-chunk does; here the step is made to
every sequence of operations.  `runArr` / `runMap` / `runChunks` run an operation list on the heap model, `AbsSeq.runArr` /
`AbsSeq.pushAll` on the abstract list `AbsSeq` of `Props/C12.lean`; the `…_refines_aux` theorems say that the two agree on
every result and on the final contents, capacity and request count, for every oracle.  The `C12_…` statements are at the end.
-/
namespace Props.C12
open Heap

namespace AbsSeq
variable {α : Type}

def replace (s : AbsSeq α) (i : Nat) (x : α) : AbsSeq α × Bool :=
  if i < s.items.length then ({ s with items := s.items.set i x }, true) else (s, false)

def pushAll (ω : Oracle) (s : AbsSeq α) : List α → AbsSeq α × List Bool
  | [] => (s, [])
  | x :: xs => let r := s.push ω x; let rs := pushAll ω r.1 xs; (rs.1, r.2 :: rs.2)

theorem replace_definite_eq (s : AbsSeq α) (i : Nat) (x : α) : (s.replace i x).1.definite = s.definite := by
  unfold replace; split <;> rfl
theorem replace_cap (s : AbsSeq α) (i : Nat) (x : α) : (s.replace i x).1.cap = s.cap := by
  unfold replace; split <;> rfl
theorem replace_reqs (s : AbsSeq α) (i : Nat) (x : α) : (s.replace i x).1.reqs = s.reqs := by
  unfold replace; split <;> rfl
theorem replace_length (s : AbsSeq α) (i : Nat) (x : α) : (s.replace i x).1.items.length = s.items.length := by
  unfold replace; split <;> simp
theorem replace_refused (s : AbsSeq α) (i : Nat) (x : α) (h : (s.replace i x).2 = false) : (s.replace i x).1 = s := by
  unfold replace at h ⊢; split <;> simp_all

end AbsSeq

inductive AOp
  | push (x : Ref)
  | set (i : Nat) (x : Ref)
  | replace (i : Nat) (x : Ref)
  | get (i : Nat)
deriving Repr, DecidableEq

inductive ARes
  | ok
  | refused
  | item (x : Ref)
  | null
deriving Repr, DecidableEq

def ARes.ofBool : Bool → ARes
  | true => .ok
  | false => .refused

def ARes.ofOption : Option Ref → ARes
  | some x => .item x
  | none => .null

def AOp.operand : AOp → Option Ref
  | .push x => some x
  | .set _ x => some x
  | .replace _ x => some x
  | .get _ => none

/-- the references the client received from `get`s (each is a new reference the client now owns) -/
def gotten : List ARes → List Ref
  | [] => []
  | .item x :: rs => x :: gotten rs
  | _ :: rs => gotten rs

def AbsSeq.stepArr (ω : Oracle) (s : AbsArr) : AOp → AbsArr × ARes
  | .push x => let r := s.push ω x; (r.1, .ofBool r.2)
  | .set i x => let r := (if i = s.items.length then s.push ω x else s.replace i x); (r.1, .ofBool r.2)
  | .replace i x => let r := s.replace i x; (r.1, .ofBool r.2)
  | .get i => (s, .ofOption s.items[i]?)

def AbsSeq.runArr (ω : Oracle) (s : AbsArr) : List AOp → AbsArr × List ARes
  | [] => (s, [])
  | op :: ops => let r := s.stepArr ω op; let rs := AbsSeq.runArr ω r.1 ops; (rs.1, r.2 :: rs.2)

def stepArr (ω : Oracle) (h : H) (a : Ref) : AOp → H × ARes
  | .push x => let r := arrPush ω h a x; (r.2, .ofBool r.1)
  | .set i x => let r := arrSet ω h a i x; (r.2, .ofBool r.1)
  | .replace i x => let r := arrReplace h a i x; (r.2, .ofBool r.1)
  | .get i => let r := arrGet h a i; (r.2, .ofOption r.1)

def runArr (ω : Oracle) (h : H) (a : Ref) : List AOp → H × List ARes
  | [] => (h, [])
  | op :: ops => let r := stepArr ω h a op; let rs := runArr ω r.1 a ops; (rs.1, r.2 :: rs.2)

theorem ARes.ofBool_refused {b : Bool} (h : ARes.ofBool b = .refused ∨ ARes.ofBool b = .null) : b = false := by
  cases b <;> simp [ARes.ofBool] at h ⊢

theorem ARes.ofOption_null {o : Option Ref} (h : ARes.ofOption o = .refused ∨ ARes.ofOption o = .null) : o = none := by
  cases o <;> simp [ARes.ofOption] at h ⊢

namespace AbsSeq

theorem stepArr_ind (ω : Oracle) (s : AbsArr) (op : AOp) (P : AbsArr → Prop) (h0 : P s) (hp : ∀ x, P (s.push ω x).1)
    (hr : ∀ i x, P (s.replace i x).1) : P (s.stepArr ω op).1 := by
  cases op <;> simp only [stepArr]
  · exact hp _
  · split
    · exact hp _
    · exact hr _ _
  · exact hr _ _
  · exact h0

theorem stepArr_definite_eq (ω : Oracle) (s : AbsArr) (op : AOp) : (s.stepArr ω op).1.definite = s.definite :=
  stepArr_ind ω s op (fun t => t.definite = s.definite) rfl (push_definite_eq ω s) (replace_definite_eq s)

theorem stepArr_le_cap (ω : Oracle) (s : AbsArr) (op : AOp) (h : s.items.length ≤ s.cap) :
    (s.stepArr ω op).1.items.length ≤ (s.stepArr ω op).1.cap :=
  stepArr_ind ω s op (fun t => t.items.length ≤ t.cap) h (fun x => push_le_cap ω s x h)
    (fun i x => by rw [replace_length, replace_cap]; exact h)

theorem stepArr_length_le (ω : Oracle) (s : AbsArr) (op : AOp) : (s.stepArr ω op).1.items.length ≤ s.items.length + 1 :=
  stepArr_ind ω s op (fun t => t.items.length ≤ s.items.length + 1) (Nat.le_succ _) (push_length_le ω s)
    (fun i x => by rw [replace_length]; omega)

theorem stepArr_refused (ω : Oracle) (s : AbsArr) (op : AOp)
    (h : (s.stepArr ω op).2 = .refused ∨ (s.stepArr ω op).2 = .null) : Same s (s.stepArr ω op).1 := by
  have hs : Same s s := ⟨rfl, rfl, rfl⟩
  cases op <;> simp only [stepArr] at h ⊢
  · exact push_refused ω s _ (ARes.ofBool_refused h)
  · split
    · rename_i e; rw [if_pos e] at h; exact push_refused ω s _ (ARes.ofBool_refused h)
    · rename_i e; rw [if_neg e] at h; rw [replace_refused s _ _ (ARes.ofBool_refused h)]; exact hs
  · rw [replace_refused s _ _ (ARes.ofBool_refused h)]; exact hs
  · exact hs

theorem runArr_ind (ω : Oracle) {Inv : AbsArr → Prop} (step : ∀ s op, Inv s → Inv (s.stepArr ω op).1) :
    ∀ (ops : List AOp) (s : AbsArr), Inv s → Inv (s.runArr ω ops).1
  | [], _, h => h
  | op :: ops, s, h => runArr_ind ω step ops _ (step s op h)

theorem runArr_le_cap (ω : Oracle) (ops : List AOp) (s : AbsArr) (h : s.items.length ≤ s.cap) :
    (s.runArr ω ops).1.items.length ≤ (s.runArr ω ops).1.cap :=
  runArr_ind ω (stepArr_le_cap ω) ops s h

theorem runArr_length_le (ω : Oracle) : ∀ (ops : List AOp) (s : AbsArr),
    (s.runArr ω ops).1.items.length ≤ s.items.length + ops.length
  | [], _ => Nat.le_refl _
  | op :: ops, s => by
    have h1 := runArr_length_le ω ops (s.stepArr ω op).1
    have h2 := stepArr_length_le ω s op
    simp only [runArr, List.length_cons]; omega

theorem runArr_definite_eq (ω : Oracle) (ops : List AOp) (s : AbsArr) : (s.runArr ω ops).1.definite = s.definite :=
  runArr_ind ω (Inv := fun t => t.definite = s.definite) (fun t op h => (stepArr_definite_eq ω t op).trans h) ops s rfl

theorem stepArr_definite (ω : Oracle) (s : AbsArr) (op : AOp) (hd : s.definite = true) :
    (s.stepArr ω op).1.cap = s.cap ∧ (s.stepArr ω op).1.reqs = s.reqs :=
  stepArr_ind ω s op (fun t => t.cap = s.cap ∧ t.reqs = s.reqs) ⟨rfl, rfl⟩
    (fun x => ⟨(push_definite ω s x hd).1, (push_definite ω s x hd).2.1⟩) (fun i x => ⟨replace_cap s i x, replace_reqs s i x⟩)

theorem runArr_definite (ω : Oracle) (ops : List AOp) (s : AbsArr) (hd : s.definite = true) :
    (s.runArr ω ops).1.definite = true ∧ (s.runArr ω ops).1.cap = s.cap ∧ (s.runArr ω ops).1.reqs = s.reqs :=
  runArr_ind ω (Inv := fun t => t.definite = true ∧ t.cap = s.cap ∧ t.reqs = s.reqs)
    (fun t op ⟨h1, h2, h3⟩ => ⟨(stepArr_definite_eq ω t op).trans h1, (stepArr_definite ω t op h1).1.trans h2,
      (stepArr_definite ω t op h1).2.trans h3⟩)
    ops s ⟨hd, rfl, rfl⟩

theorem runArr_append (ω : Oracle) : ∀ (ops ops' : List AOp) (s : AbsArr),
    s.runArr ω (ops ++ ops') = (((s.runArr ω ops).1.runArr ω ops').1, (s.runArr ω ops).2 ++ ((s.runArr ω ops).1.runArr ω ops').2)
  | [], _, _ => rfl
  | op :: ops, ops', s => by
    simp only [List.cons_append, runArr, runArr_append ω ops ops']

end AbsSeq

theorem runArr_append (ω : Oracle) (a : Ref) : ∀ (ops ops' : List AOp) (h : H),
    runArr ω h a (ops ++ ops') = ((runArr ω (runArr ω h a ops).1 a ops').1, (runArr ω h a ops).2 ++ (runArr ω (runArr ω h a ops).1 a ops').2)
  | [], _, _ => rfl
  | op :: ops, ops', h => by
    simp only [List.cons_append, runArr, runArr_append ω a ops ops']

theorem counts_live {h : H} {own : Ref → Nat} (hc : Counts h own) {x : Ref} (hx : 1 ≤ own x) : ∃ c, h.get x = some c := by
  have := hc x
  cases hg : h.get x with
  | none => rw [hg] at this; omega
  | some c => exact ⟨c, rfl⟩

/-- what is asked of the client: the books balance, no rule has been broken so far, and the client itself owns a
reference to the array `a` it operates on -/
structure Client (h : H) (own : Ref → Nat) (a : Ref) : Prop where
  counts : Counts h own
  nofault : h.fault = false
  holds : 1 ≤ own a

theorem arrPush_step (ω : Oracle) {h : H} {a x : Ref} {own : Ref → Nat} {s : AbsArr} (hC : Client h own a) (hR : Rel .arr h a s)
    (hb : s.definite = false → s.cap ≤ s.items.length → s.cap < 2 ^ 58) (hx : 1 ≤ own x) :
    (arrPush ω h a x).1 = (s.push ω x).2 ∧ Rel .arr (arrPush ω h a x).2 a (s.push ω x).1 ∧ Client (arrPush ω h a x).2 own a := by
  obtain ⟨d, cap, items, reqs⟩ := s
  obtain ⟨hA, rfl⟩ := hR
  obtain ⟨rc, hg⟩ := nodeOf_eq_some.mp hA
  obtain ⟨cx, hgx⟩ := counts_live hC.counts hx
  have hl := arrPush_post ω h a x
  rw [arrPush_eq hg] at hl ⊢
  obtain ⟨e1, e2, -, -, e5⟩ := insert_push ω Node.arr x [x] hg (Or.inl rfl) decide_eq_true_iff hb rfl
  have hf := (e5 (by simpa using ⟨cx, hgx⟩)).trans hC.nofault
  exact ⟨e1, e2, (Books.link hl (Or.inr hC.counts)).counts hf, hf, hC.holds⟩

/-- The old member loses the array's reference, which may release it and, in cascade, whatever it alone kept alive; the
array survives because the client holds it. -/
theorem arrReplace_step {h : H} {a x : Ref} {i : Nat} {own : Ref → Nat} {s : AbsArr} (hC : Client h own a) (hR : Rel .arr h a s)
    (hx : 1 ≤ own x) :
    (arrReplace h a i x).1 = (s.replace i x).2 ∧ Rel .arr (arrReplace h a i x).2 a (s.replace i x).1 ∧
    Client (arrReplace h a i x).2 own a := by
  obtain ⟨rc, hg⟩ := nodeOf_eq_some.mp hR.1
  unfold AbsSeq.replace
  by_cases hi : i < s.items.length
  · simp only [hi, if_true]
    have hio : s.items[i]? = some s.items[i] := List.getElem?_eq_getElem hi
    -- the array with `x` stored and counted, before the old member is released
    obtain ⟨n1, -, q1, f1⟩ := put_increfs h (.arr s.definite (s.items.set i x) s.cap) rc [x] (get_lt hg)
    have hf1 := (f1 (by simpa using counts_live hC.counts hx)).trans hC.nofault
    have hc1 := (Books.relink (arrReplace_relink hg hio) (Or.inr hC.counts)).counts hf1
    rw [bumpL_single] at hc1
    have hd := H.decref_counts _ s.items[i] own hc1
    have hs := H.decref_shrinks ((h.put a (some ⟨.arr s.definite (s.items.set i x) s.cap, rc⟩)).incref x) s.items[i]
    rw [arrReplace_eq hg hio]
    refine ⟨rfl, ⟨?_, (hs.2.1.trans q1).trans hR.2⟩, hd.1, hd.2.trans hf1, hC.holds⟩
    -- the client holds `a`, so it survives the release, and a surviving cell keeps its node
    obtain ⟨ca, hga⟩ := counts_live hd.1 hC.holds
    obtain ⟨c1, hg1, hn, -⟩ := hs.2.2 a ca hga
    obtain ⟨rc1, hg1'⟩ := nodeOf_eq_some.mp n1
    cases hg1.symm.trans hg1'
    unfold nodeOf; rw [hga]; exact congrArg some hn
  · simp only [hi, if_false]
    rw [replace_out_of_range h a _ _ _ i x (arrOf_iff.mpr hR.1) (by omega)]
    exact ⟨rfl, hR, hC⟩

theorem arrSet_step (ω : Oracle) {h : H} {a x : Ref} {i : Nat} {own : Ref → Nat} {s : AbsArr} (hC : Client h own a) (hR : Rel .arr h a s)
    (hb : s.definite = false → s.cap ≤ s.items.length → s.cap < 2 ^ 58) (hx : 1 ≤ own x) :
    let r := if i = s.items.length then s.push ω x else s.replace i x
    (arrSet ω h a i x).1 = r.2 ∧ Rel .arr (arrSet ω h a i x).2 a r.1 ∧ Client (arrSet ω h a i x).2 own a := by
  rw [set_spec ω h a _ _ _ i x (arrOf_iff.mpr hR.1)]
  by_cases e : i = s.items.length
  · simp only [e, if_true]; exact arrPush_step ω hC hR hb hx
  · simp only [e, if_false]
    by_cases hi : i < s.items.length
    · simp only [hi, if_true]; exact arrReplace_step hC hR hx
    · simp only [hi, if_false, AbsSeq.replace]; exact ⟨trivial, hR, hC⟩

theorem arrGet_step {h : H} {a : Ref} {i : Nat} {own : Ref → Nat} {s : AbsArr} (hC : Client h own a) (hR : Rel .arr h a s) :
    (arrGet h a i).1 = s.items[i]? ∧ Rel .arr (arrGet h a i).2 a s ∧ Client (arrGet h a i).2 (bumpL own (arrGet h a i).1.toList) a := by
  rw [get_spec h a _ _ _ i (arrOf_iff.mpr hR.1)]
  obtain ⟨rc, hg⟩ := nodeOf_eq_some.mp hR.1
  cases hi : s.items[i]? with
  | none => simp only [Option.toList, bumpL_nil]; exact ⟨trivial, hR, hC⟩
  | some x =>
    simp only [Option.toList, bumpL_single]
    have hm : x ∈ s.items := List.mem_of_getElem? hi
    obtain ⟨cx, hgx⟩ := counts_closed hC.counts hg (by simpa [Node.children] using hm)
    refine ⟨trivial, ⟨?_, by rw [incref_reqs]; exact hR.2⟩, counts_incref hgx hC.counts, ?_, ?_⟩
    · rw [nodeOf_incref]; exact hR.1
    · rw [incref_fault h x cx hgx]; exact hC.nofault
    · have := hC.holds; simp only [bump]; omega

theorem gotten_ofBool (b : Bool) : gotten [ARes.ofBool b] = [] := by cases b <;> rfl
theorem gotten_ofOption (o : Option Ref) : gotten [ARes.ofOption o] = o.toList := by cases o <;> rfl
theorem gotten_cons (r : ARes) (rs : List ARes) : gotten (r :: rs) = gotten [r] ++ gotten rs := by
  cases r <;> rfl

theorem stepArr_refines (ω : Oracle) {h : H} {a : Ref} {own : Ref → Nat} {s : AbsArr} (op : AOp)
    (hC : Client h own a) (hR : Rel .arr h a s) (hb : s.definite = false → s.cap ≤ s.items.length → s.cap < 2 ^ 58)
    (hop : ∀ x, op.operand = some x → 1 ≤ own x) :
    (stepArr ω h a op).2 = (s.stepArr ω op).2 ∧ Rel .arr (stepArr ω h a op).1 a (s.stepArr ω op).1 ∧
    Client (stepArr ω h a op).1 (bumpL own (gotten [(stepArr ω h a op).2])) a := by
  cases op with
  | push x =>
    simp only [stepArr, AbsSeq.stepArr, gotten_ofBool, bumpL_nil]
    exact (arrPush_step ω hC hR hb (hop x rfl)).imp (congrArg _) id
  | set i x =>
    simp only [stepArr, AbsSeq.stepArr, gotten_ofBool, bumpL_nil]
    exact (arrSet_step (i := i) ω hC hR hb (hop x rfl)).imp (congrArg _) id
  | replace i x =>
    simp only [stepArr, AbsSeq.stepArr, gotten_ofBool, bumpL_nil]
    exact (arrReplace_step (i := i) hC hR (hop x rfl)).imp (congrArg _) id
  | get i =>
    simp only [stepArr, AbsSeq.stepArr, gotten_ofOption]
    exact (arrGet_step (i := i) hC hR).imp (congrArg _) id

theorem runArr_refines_aux (ω : Oracle) (a : Ref) : ∀ (ops : List AOp) (h : H) (own : Ref → Nat) (s : AbsArr),
    Client h own a → Rel .arr h a s → (s.definite = false → s.items.length + ops.length ≤ 2 ^ 58) →
    (∀ op ∈ ops, ∀ x, op.operand = some x → 1 ≤ own x) →
    (runArr ω h a ops).2 = (s.runArr ω ops).2 ∧ Rel .arr (runArr ω h a ops).1 a (s.runArr ω ops).1 ∧
    Client (runArr ω h a ops).1 (bumpL own (gotten (runArr ω h a ops).2)) a
  | [], h, own, s, hC, hR, _, _ => ⟨rfl, hR, by simp only [runArr, gotten, bumpL_nil]; exact hC⟩
  | op :: ops, h, own, s, hC, hR, hb, hop => by
    simp only [List.length_cons] at hb
    obtain ⟨e1, e2, e3⟩ := stepArr_refines ω op hC hR (fun hd _ => by have := hb hd; omega) (hop op List.mem_cons_self)
    have hlen := AbsSeq.stepArr_length_le ω s op
    have ih := runArr_refines_aux ω a ops _ _ _ e3 e2
      (fun hd => by have := hb ((AbsSeq.stepArr_definite_eq ω s op).symm.trans hd); omega)
      (fun op' hm x hx => by have := hop op' (List.mem_cons_of_mem _ hm) x hx; simp only [bumpL]; omega)
    simp only [runArr, AbsSeq.runArr]
    rw [gotten_cons, ← bumpL_append]
    exact ⟨by rw [e1, ih.1], ih.2.1, ih.2.2⟩

theorem stepArr_refused_untouched (ω : Oracle) (h : H) (a : Ref) (op : AOp)
    (hr : (stepArr ω h a op).2 = .refused ∨ (stepArr ω h a op).2 = .null) : (stepArr ω h a op).1.cells = h.cells := by
  cases op with
  | push x => exact (arrPush_post ω h a x).refused (ARes.ofBool_refused hr)
  | set i x =>
    have ⟨_, l⟩ := arrSet_post ω h a i x
    exact l.refused (ARes.ofBool_refused hr)
  | replace i x =>
    have ⟨_, l⟩ := arrReplace_post h a i x
    exact l.refused (ARes.ofBool_refused hr)
  | get i =>
    have g := arrGet_post h a i
    rw [GetPost, ARes.ofOption_null hr] at g
    exact g.1

theorem arrOf_cells_congr {h h' : H} (e : h'.cells = h.cells) (a : Ref) : arrOf h' a = arrOf h a := by
  unfold arrOf; rw [get_congr e]

namespace AbsSeq
variable {α : Type}

theorem pushAll_definite (ω : Oracle) : ∀ (xs : List α) (s : AbsSeq α), s.definite = true → s.items.length ≤ s.cap →
    (s.pushAll ω xs).1.items = s.items ++ xs.take (s.cap - s.items.length) ∧
    (s.pushAll ω xs).1.cap = s.cap ∧ (s.pushAll ω xs).1.reqs = s.reqs ∧
    (s.pushAll ω xs).2 = List.replicate (min xs.length (s.cap - s.items.length)) true ++
      List.replicate (xs.length - (s.cap - s.items.length)) false
  | [], s, _, _ => by simp [pushAll]
  | x :: xs, s, hd, hsz => by
    simp only [pushAll]
    by_cases hlt : s.items.length < s.cap
    · have e : s.push ω x = ({ s with items := s.items ++ [x] }, true) := by simp [push, hlt]
      obtain ⟨i1, i2, i3, i4⟩ := pushAll_definite ω xs { s with items := s.items ++ [x] } hd
        (by simp only [List.length_append, List.length_singleton]; omega)
      rw [e]
      simp only [List.length_append, List.length_singleton] at i1 i4
      obtain ⟨k, hk⟩ : ∃ k, s.cap - s.items.length = k + 1 := ⟨s.cap - s.items.length - 1, by omega⟩
      have hk' : s.cap - (s.items.length + 1) = k := by omega
      rw [hk'] at i1 i4
      refine ⟨?_, i2, i3, ?_⟩
      · rw [i1, hk]; simp
      · rw [i4, hk]
        simp only [List.length_cons, Nat.add_sub_add_right, Nat.add_min_add_right, List.replicate_succ, List.cons_append]
    · have e : s.push ω x = (s, false) := by simp [push, hlt, hd]
      obtain ⟨i1, i2, i3, i4⟩ := pushAll_definite ω xs s hd hsz
      rw [e]
      have hk : s.cap - s.items.length = 0 := by omega
      rw [hk] at i1 i4 ⊢
      refine ⟨?_, i2, i3, ?_⟩
      · rw [i1]; simp
      · rw [i4]; simp [List.replicate_succ]

theorem runArr_pushes (ω : Oracle) : ∀ (xs : List Ref) (s : AbsArr),
    s.runArr ω (xs.map .push) = ((s.pushAll ω xs).1, (s.pushAll ω xs).2.map ARes.ofBool)
  | [], _ => rfl
  | x :: xs, s => by simp only [List.map_cons, runArr, stepArr, pushAll, runArr_pushes ω xs]

end AbsSeq

namespace AbsSeq
variable {α : Type}

def accepted (xs : List α) (rs : List Bool) : List α := ((xs.zip rs).filter (·.2)).map (·.1)

theorem pushAll_items (ω : Oracle) : ∀ (xs : List α) (s : AbsSeq α),
    (s.pushAll ω xs).1.items = s.items ++ accepted xs (s.pushAll ω xs).2
  | [], s => by simp [pushAll, accepted]
  | x :: xs, s => by
    have ih := pushAll_items ω xs (s.push ω x).1
    simp only [pushAll, accepted, List.zip_cons_cons] at ih ⊢
    cases hr : (s.push ω x).2 with
    | true => rw [ih, push_ok_items ω s x hr]; simp
    | false => rw [ih, (push_refused ω s x hr).2.2]; simp

theorem pushAll_le_cap (ω : Oracle) : ∀ (xs : List α) (s : AbsSeq α), s.items.length ≤ s.cap →
    (s.pushAll ω xs).1.items.length ≤ (s.pushAll ω xs).1.cap
  | [], _, h => h
  | x :: xs, s, h => pushAll_le_cap ω xs _ (push_le_cap ω s x h)

theorem pushAll_definite_eq (ω : Oracle) : ∀ (xs : List α) (s : AbsSeq α), (s.pushAll ω xs).1.definite = s.definite
  | [], _ => rfl
  | x :: xs, s => (pushAll_definite_eq ω xs _).trans (push_definite_eq ω s x)

end AbsSeq

def runMap (ω : Oracle) (h : H) (m : Ref) : List (Ref × Ref) → H × List Bool
  | [] => (h, [])
  | kv :: ps => let r := mapAdd ω h m kv.1 kv.2; let rs := runMap ω r.2 m ps; (rs.1, r.1 :: rs.2)

theorem runMap_refines_aux (ω : Oracle) (m : Ref) : ∀ (ps : List (Ref × Ref)) (h : H) (s : AbsSeq (Ref × Ref)),
    Rel .map h m s → (s.definite = false → s.items.length + ps.length ≤ 2 ^ 58) →
    (runMap ω h m ps).2 = (s.pushAll ω ps).2 ∧ Rel .map (runMap ω h m ps).1 m (s.pushAll ω ps).1
  | [], _, _, hR, _ => ⟨rfl, hR⟩
  | (k, v) :: ps, h, s, hR, hb => by
    simp only [List.length_cons] at hb
    obtain ⟨e1, e2⟩ := mapAdd_refines ω h m k v s hR (fun hd _ => by have := hb hd; omega)
    have hlen := AbsSeq.push_length_le ω s (k, v)
    have ih := runMap_refines_aux ω m ps _ _ e2
      (fun hd => by have := hb ((AbsSeq.push_definite_eq ω s (k, v)).symm.trans hd); omega)
    simp only [runMap, AbsSeq.pushAll]
    exact ⟨by rw [e1, ih.1], ih.2⟩

def runChunks (ω : Oracle) (h : H) (st : Ref) : List Ref → H × List Bool
  | [] => (h, [])
  | c :: cs => let r := addChunk ω h st c; let rs := runChunks ω r.2 st cs; (rs.1, r.1 :: rs.2)

theorem runChunks_refines_aux (ω : Oracle) (st : Ref) (t : Bool) : ∀ (cs : List Ref) (h : H) (s : AbsSeq Ref),
    Rel (fun _ => .strI t) h st s → s.definite = false → (∀ c ∈ cs, IsChunk h t c) → s.items.length ≤ s.cap →
    s.items.length + cs.length ≤ 2 ^ 58 →
    (runChunks ω h st cs).2 = (s.pushAll ω cs).2 ∧ Rel (fun _ => .strI t) (runChunks ω h st cs).1 st (s.pushAll ω cs).1
  | [], _, _, hR, _, _, _, _ => ⟨rfl, hR⟩
  | c :: cs, h, s, hR, hd, hcs, hsz, hb => by
    simp only [List.length_cons] at hb
    obtain ⟨e1, e2, e3⟩ := addChunk_refines ω h st c t s hR hd (hcs c List.mem_cons_self) hsz (by omega)
    have hlen := AbsSeq.push_length_le ω s c
    have ih := runChunks_refines_aux ω st t cs _ _ e2 ((AbsSeq.push_definite_eq ω s c).trans hd)
      (fun c' hm => e3 c' (hcs c' (List.mem_cons_of_mem _ hm))) (AbsSeq.push_le_cap ω s c hsz) (by omega)
    simp only [runChunks, AbsSeq.pushAll]
    exact ⟨by rw [e1, ih.1], ih.2⟩

namespace AbsSeq
variable {α : Type}

theorem replace_geometric {r0 : Nat} {s : AbsSeq α} (i : Nat) (x : α) (hG : Geometric r0 s) : Geometric r0 (s.replace i x).1 := by
  unfold Geometric
  rw [replace_definite_eq, replace_cap, replace_reqs, replace_length]; exact hG

theorem stepArr_geometric {r0 : Nat} {s : AbsArr} (op : AOp) (hG : Geometric r0 s) : Geometric r0 (s.stepArr grantAll op).1 :=
  stepArr_ind grantAll s op (Geometric r0) hG (fun x => (push_geometric x hG).1) (fun i x => replace_geometric i x hG)

theorem runArr_geometric {r0 : Nat} (ops : List AOp) (s : AbsArr) (hG : Geometric r0 s) : Geometric r0 (s.runArr grantAll ops).1 :=
  runArr_ind grantAll (fun _ op => stepArr_geometric op) ops s hG

theorem pushAll_geometric {r0 : Nat} : ∀ (xs : List α) (s : AbsSeq α), Geometric r0 s →
    Geometric r0 (s.pushAll grantAll xs).1 ∧ (s.pushAll grantAll xs).1.items = s.items ++ xs ∧
    (s.pushAll grantAll xs).2 = List.replicate xs.length true
  | [], s, hG => by simp [pushAll, hG]
  | x :: xs, s, hG => by
    obtain ⟨g1, g2⟩ := push_geometric x hG
    obtain ⟨i1, i2, i3⟩ := pushAll_geometric xs _ g1
    simp only [pushAll]
    refine ⟨i1, ?_, ?_⟩
    · rw [i2, push_ok_items _ s x g2]; simp
    · rw [i3, g2]; rfl

theorem Geometric.logarithmic {r0 : Nat} {s : AbsSeq α} (hG : Geometric r0 s) (hn : 1 ≤ s.items.length) :
    2 ^ (s.reqs - r0) < 4 * s.items.length := by
  have : s.reqs - r0 = reallocs s.items.length := by rw [hG.2.2]; omega
  rw [this]; exact C12_logarithmic _ hn

end AbsSeq

/-- C12, arrays, for every oracle and every operation list: running the operations on the heap model and on the abstract
list `⟨d, al, xs⟩` gives the same results one by one, the same final contents, capacity and number of allocator requests,
size ≤ capacity, no reallocation for a definite array, no broken rule and balanced books (one more owned reference per item
a `get` returned).  Asked: the books balance and the client owns a reference to `a` and to every item it passes (`x = a`
is allowed).  An indefinite array stays within `2 ^ 58` elements: beyond, `8 * capacity` overflows `size_t` and the
library's overflow guard refuses to grow. -/
theorem C12_array_sequences (ω : Oracle) (h : H) (a : Ref) (d : Bool) (xs : List Ref) (al : Nat) (own : Ref → Nat)
    (ops : List AOp)
    (harr : arrOf h a = some (d, xs, al)) (hsz : xs.length ≤ al)
    (hcounts : Counts h own) (hfault : h.fault = false) (hown : 1 ≤ own a)
    (hops : ∀ op ∈ ops, ∀ x, op.operand = some x → 1 ≤ own x)
    (hbound : d = false → xs.length + ops.length ≤ 2 ^ 58) :
    let abs := AbsSeq.runArr ω ⟨d, al, xs, h.reqs⟩ ops
    let con := runArr ω h a ops
    con.2 = abs.2 ∧
    arrOf con.1 a = some (d, abs.1.items, abs.1.cap) ∧
    con.1.reqs = abs.1.reqs ∧
    abs.1.items.length ≤ abs.1.cap ∧
    (d = true → abs.1.cap = al ∧ con.1.reqs = h.reqs) ∧
    con.1.fault = false ∧ Counts con.1 (bumpL own (gotten con.2)) := by
  intro abs con
  obtain ⟨e1, ⟨e2, e3⟩, e4⟩ :=
    runArr_refines_aux ω a ops h own ⟨d, al, xs, h.reqs⟩ ⟨hcounts, hfault, hown⟩ ⟨arrOf_iff.mp harr, rfl⟩ hbound hops
  have hd := AbsSeq.runArr_definite_eq ω ops ⟨d, al, xs, h.reqs⟩
  refine ⟨e1, ?_, e3, AbsSeq.runArr_le_cap ω ops _ hsz, ?_, e4.nofault, e4.counts⟩
  · rw [arrOf_iff, e2, hd]
  · intro hdt
    have := AbsSeq.runArr_definite ω ops ⟨d, al, xs, h.reqs⟩ hdt
    exact ⟨this.2.1, e3.trans this.2.2⟩

/-- C12: after every prefix of the operation list the array at `a` is a live array of the same kind whose size is at most
its capacity. -/
theorem C12_array_size_le_cap_every_step (ω : Oracle) (h : H) (a : Ref) (d : Bool) (xs : List Ref) (al : Nat) (own : Ref → Nat)
    (ops : List AOp)
    (harr : arrOf h a = some (d, xs, al)) (hsz : xs.length ≤ al)
    (hcounts : Counts h own) (hfault : h.fault = false) (hown : 1 ≤ own a)
    (hops : ∀ op ∈ ops, ∀ x, op.operand = some x → 1 ≤ own x)
    (hbound : d = false → xs.length + ops.length ≤ 2 ^ 58) :
    ∀ pre post, ops = pre ++ post →
      ∃ items cap, arrOf (runArr ω h a pre).1 a = some (d, items, cap) ∧ items.length ≤ cap := by
  intro pre post e
  subst e
  obtain ⟨-, e2, -, e4, -⟩ := C12_array_sequences ω h a d xs al own pre harr hsz hcounts hfault hown
    (fun op hm => hops op (List.mem_append_left _ hm))
    (fun hd => by have := hbound hd; simp only [List.length_append] at this; omega)
  exact ⟨_, _, e2, e4⟩

/-- C12: a definite array accepts exactly `al - size` further pushes and then refuses; it ends up holding `xs` followed
by the first `al - size` of `ys`, its capacity unchanged, the allocator never consulted. -/
theorem C12_array_definite_pushes (ω : Oracle) (h : H) (a : Ref) (xs : List Ref) (al : Nat) (own : Ref → Nat) (ys : List Ref)
    (harr : arrOf h a = some (true, xs, al)) (hsz : xs.length ≤ al)
    (hcounts : Counts h own) (hfault : h.fault = false) (hown : 1 ≤ own a) (hys : ∀ y ∈ ys, 1 ≤ own y) :
    let con := runArr ω h a (ys.map .push)
    con.2 = List.replicate (min ys.length (al - xs.length)) .ok ++ List.replicate (ys.length - (al - xs.length)) .refused ∧
    arrOf con.1 a = some (true, xs ++ ys.take (al - xs.length), al) ∧ con.1.reqs = h.reqs := by
  intro con
  have hops : ∀ op ∈ ys.map AOp.push, ∀ x, op.operand = some x → 1 ≤ own x := by
    intro op hm x hx
    obtain ⟨y, hy, rfl⟩ := List.mem_map.mp hm
    simp only [AOp.operand, Option.some.injEq] at hx; subst hx; exact hys _ hy
  obtain ⟨e1, e2, e3, -⟩ := C12_array_sequences ω h a true xs al own (ys.map .push) harr hsz hcounts hfault hown hops (by simp)
  simp only [AbsSeq.runArr_pushes] at e1 e2 e3
  obtain ⟨i1, i2, i3, i4⟩ := AbsSeq.pushAll_definite ω ys (⟨true, al, xs, h.reqs⟩ : AbsArr) rfl hsz
  simp only at i1 i2 i3 i4
  refine ⟨?_, ?_, e3.trans i3⟩
  · rw [e1, i4]; simp [ARes.ofBool]
  · rw [e2, i1, i2]

/-- C12: if the operation that follows `pre` is refused or answers NULL, every cell of the heap (every item, every reference
count) is as it was before it.  No hypothesis on the heap, the operands or the oracle. -/
theorem C12_array_refused_untouched (ω : Oracle) (h : H) (a : Ref) (pre : List AOp) (op : AOp)
    (hr : (stepArr ω (runArr ω h a pre).1 a op).2 = .refused ∨ (stepArr ω (runArr ω h a pre).1 a op).2 = .null) :
    (runArr ω h a (pre ++ [op])).1.cells = (runArr ω h a pre).1.cells ∧
    ∀ b, arrOf (runArr ω h a (pre ++ [op])).1 b = arrOf (runArr ω h a pre).1 b := by
  have e : (runArr ω h a (pre ++ [op])).1 = (stepArr ω (runArr ω h a pre).1 a op).1 := by
    rw [runArr_append]; rfl
  rw [e]
  have hc := stepArr_refused_untouched ω _ a op hr
  exact ⟨hc, fun b => arrOf_cells_congr hc b⟩

/-- C12, maps, for every sequence of `mapAdd`: the answers are those of the abstract list, the final contents are the initial
pairs followed by the accepted pairs in order, size ≤ capacity.  Nothing is asked of the keys and values. -/
theorem C12_map_sequences (ω : Oracle) (h : H) (m : Ref) (d : Bool) (ps : List (Ref × Ref)) (al : Nat) (adds : List (Ref × Ref))
    (hmap : mapOf h m = some (d, ps, al)) (hsz : ps.length ≤ al)
    (hbound : d = false → ps.length + adds.length ≤ 2 ^ 58) :
    let abs := AbsSeq.pushAll ω ⟨d, al, ps, h.reqs⟩ adds
    let con := runMap ω h m adds
    con.2 = abs.2 ∧
    mapOf con.1 m = some (d, abs.1.items, abs.1.cap) ∧
    con.1.reqs = abs.1.reqs ∧
    abs.1.items = ps ++ AbsSeq.accepted adds con.2 ∧
    abs.1.items.length ≤ abs.1.cap := by
  intro abs con
  obtain ⟨e1, e2, e3⟩ := runMap_refines_aux ω m adds h ⟨d, al, ps, h.reqs⟩ ⟨mapOf_iff.mp hmap, rfl⟩ hbound
  have hd := AbsSeq.pushAll_definite_eq ω adds (⟨d, al, ps, h.reqs⟩ : AbsSeq (Ref × Ref))
  refine ⟨e1, ?_, e3, ?_, AbsSeq.pushAll_le_cap ω adds _ hsz⟩
  · rw [mapOf_iff, e2, hd]
  · show abs.1.items = ps ++ AbsSeq.accepted adds (runMap ω h m adds).2
    rw [e1]; exact AbsSeq.pushAll_items ω adds _

/-- C12: a definite map accepts exactly `al - size` further pairs, then refuses, never consulting the allocator. -/
theorem C12_map_definite_adds (ω : Oracle) (h : H) (m : Ref) (ps : List (Ref × Ref)) (al : Nat) (adds : List (Ref × Ref))
    (hmap : mapOf h m = some (true, ps, al)) (hsz : ps.length ≤ al) :
    let con := runMap ω h m adds
    con.2 = List.replicate (min adds.length (al - ps.length)) true ++ List.replicate (adds.length - (al - ps.length)) false ∧
    mapOf con.1 m = some (true, ps ++ adds.take (al - ps.length), al) ∧ con.1.reqs = h.reqs := by
  intro con
  obtain ⟨e1, e2, e3, -⟩ := C12_map_sequences ω h m true ps al adds hmap hsz (by simp)
  obtain ⟨i1, i2, i3, i4⟩ := AbsSeq.pushAll_definite ω adds (⟨true, al, ps, h.reqs⟩ : AbsSeq (Ref × Ref)) rfl hsz
  simp only at i1 i2 i3 i4
  exact ⟨e1.trans i4, by rw [e2, i1, i2], e3.trans i3⟩

/-- C12, chunked strings, for every sequence of `addChunk` of live definite strings of the same kind (bytes / text) as the
chunked string. -/
theorem C12_chunk_sequences (ω : Oracle) (h : H) (st : Ref) (t : Bool) (cs : List Ref) (cap rc : Nat) (adds : List Ref)
    (hstr : h.get st = some ⟨.strI t cs cap, rc⟩) (hsz : cs.length ≤ cap)
    (hadds : ∀ c ∈ adds, ∃ b rc', h.get c = some ⟨.str t b, rc'⟩)
    (hbound : cs.length + adds.length ≤ 2 ^ 58) :
    let abs := AbsSeq.pushAll ω ⟨false, cap, cs, h.reqs⟩ adds
    let con := runChunks ω h st adds
    con.2 = abs.2 ∧
    chunksOf con.1 st = some (abs.1.items, abs.1.cap) ∧
    con.1.reqs = abs.1.reqs ∧
    abs.1.items = cs ++ AbsSeq.accepted adds con.2 ∧
    abs.1.items.length ≤ abs.1.cap := by
  intro abs con
  have hcs : ∀ c ∈ adds, IsChunk h t c := by
    intro c hm; obtain ⟨b, rc', hg⟩ := hadds c hm; exact ⟨b, nodeOf_eq_some.mpr ⟨rc', hg⟩⟩
  obtain ⟨e1, e2⟩ := runChunks_refines_aux ω st t adds h ⟨false, cap, cs, h.reqs⟩ ⟨nodeOf_eq_some.mpr ⟨rc, hstr⟩, rfl⟩ rfl hcs hsz hbound
  refine ⟨e1, chunksOf_iff.mpr ⟨t, e2.1⟩, e2.2, ?_, AbsSeq.pushAll_le_cap ω adds _ hsz⟩
  show abs.1.items = cs ++ AbsSeq.accepted adds (runChunks ω h st adds).2
  rw [e1]; exact AbsSeq.pushAll_items ω adds _

/-- C12, logarithmic growth: an indefinite array that starts empty, with an allocator that grants everything, has after any
sequence of push / set / replace / get that leaves it with `n` members capacity `capFor n` and has made exactly `reallocs n`
allocator requests, so `2 ^ requests < 4 n`. -/
theorem C12_array_growth_sequences (h : H) (a : Ref) (own : Ref → Nat) (ops : List AOp)
    (harr : arrOf h a = some (false, [], 0))
    (hcounts : Counts h own) (hfault : h.fault = false) (hown : 1 ≤ own a)
    (hops : ∀ op ∈ ops, ∀ x, op.operand = some x → 1 ≤ own x) (hbound : ops.length ≤ 2 ^ 58) :
    let con := runArr grantAll h a ops
    ∃ items, arrOf con.1 a = some (false, items, capFor items.length) ∧
      con.1.reqs = h.reqs + reallocs items.length ∧
      (1 ≤ items.length → 2 ^ (con.1.reqs - h.reqs) < 4 * items.length) := by
  intro con
  obtain ⟨-, e2, e3, -⟩ := C12_array_sequences grantAll h a false [] 0 own ops harr (Nat.le_refl _) hcounts hfault hown hops
    (fun _ => by simpa using hbound)
  have hG := AbsSeq.runArr_geometric ops _ (AbsSeq.geometric_empty (α := Ref) h.reqs)
  refine ⟨_, ?_, e3.trans hG.2.2, fun hn => ?_⟩
  · rw [e2, hG.2.1]
  · have := hG.logarithmic hn
    rw [← e3] at this; exact this

/-- C12: `n` pairs added to an empty indefinite map are all accepted, leave capacity `capFor n` and cost `reallocs n`
allocator requests. -/
theorem C12_map_growth_sequences (h : H) (m : Ref) (adds : List (Ref × Ref))
    (hmap : mapOf h m = some (false, [], 0)) (hbound : adds.length ≤ 2 ^ 58) :
    let con := runMap grantAll h m adds
    con.2 = List.replicate adds.length true ∧
    mapOf con.1 m = some (false, adds, capFor adds.length) ∧
    con.1.reqs = h.reqs + reallocs adds.length ∧
    (1 ≤ adds.length → 2 ^ reallocs adds.length < 4 * adds.length) := by
  intro con
  obtain ⟨e1, e2, e3, -⟩ := C12_map_sequences grantAll h m false [] 0 adds hmap (Nat.le_refl _) (fun _ => by simpa using hbound)
  obtain ⟨g1, g2, g3⟩ := AbsSeq.pushAll_geometric adds _ (AbsSeq.geometric_empty (α := Ref × Ref) h.reqs)
  simp only [List.nil_append] at g2
  refine ⟨e1.trans g3, ?_, ?_, C12_logarithmic _⟩
  · rw [e2, g1.2.1, g2]
  · rw [e3, g1.2.2, g2]

/-- C12: `n` chunks added to an empty chunked string are all accepted, leave chunk capacity `capFor n` and cost
`reallocs n` allocator requests. -/
theorem C12_chunk_growth_sequences (h : H) (st : Ref) (t : Bool) (rc : Nat) (adds : List Ref)
    (hstr : h.get st = some ⟨.strI t [] 0, rc⟩)
    (hadds : ∀ c ∈ adds, ∃ b rc', h.get c = some ⟨.str t b, rc'⟩) (hbound : adds.length ≤ 2 ^ 58) :
    let con := runChunks grantAll h st adds
    con.2 = List.replicate adds.length true ∧
    chunksOf con.1 st = some (adds, capFor adds.length) ∧
    con.1.reqs = h.reqs + reallocs adds.length ∧
    (1 ≤ adds.length → 2 ^ reallocs adds.length < 4 * adds.length) := by
  intro con
  obtain ⟨e1, e2, e3, -⟩ := C12_chunk_sequences grantAll h st t [] 0 rc adds hstr (Nat.le_refl _) hadds (by simpa using hbound)
  obtain ⟨g1, g2, g3⟩ := AbsSeq.pushAll_geometric adds _ (AbsSeq.geometric_empty (α := Ref) h.reqs)
  simp only [List.nil_append] at g2
  refine ⟨e1.trans g3, ?_, ?_, C12_logarithmic _⟩
  · rw [e2, g1.2.1, g2]
  · rw [e3, g1.2.2, g2]

/-- non-vacuity: growth, set-as-push, set-as-replace, out-of-range get / replace / set, on an indefinite array with a
granting and with an alternating allocator, and on a definite array of capacity 2 -/
example :
    let h0 : H := { cells := [some ⟨.arr false [] 0, 1⟩, some ⟨.int false .w8 7, 1⟩, some ⟨.int false .w8 9, 1⟩,
                              some ⟨.arr true [] 2, 1⟩] }
    let ops : List AOp := [.push 1, .get 0, .set 1 2, .set 0 2, .get 5, .replace 3 1, .push 1, .push 2, .replace 1 1, .get 1, .set 9 1]
    (runArr grantAll h0 0 ops).2 = [.ok, .item 1, .ok, .ok, .null, .refused, .ok, .ok, .ok, .item 1, .refused] ∧
    (AbsSeq.runArr grantAll ⟨false, 0, [], 0⟩ ops).2 = (runArr grantAll h0 0 ops).2 ∧
    arrOf (runArr grantAll h0 0 ops).1 0 = some (false, [2, 1, 1, 2], 4) ∧
    (runArr grantAll h0 0 ops).1.reqs = 3 ∧ (runArr grantAll h0 0 ops).1.fault = false ∧
    (runArr (fun n => n % 2 == 1) h0 0 ops).2 = (AbsSeq.runArr (fun n => n % 2 == 1) ⟨false, 0, [], 0⟩ ops).2 ∧
    (runArr grantAll h0 3 ops).2 = (AbsSeq.runArr grantAll ⟨true, 2, [], 0⟩ ops).2 ∧
    arrOf (runArr grantAll h0 3 ops).1 3 = some (true, [2, 1], 2) := by decide

/-- without a reference owned by the client the statement is false: here the arrays 0 and 1 hold the only
references to each other; replacing member 0 of array 0 releases array 1, whose release drops the last
reference to array 0 — the array the client is operating on is gone -/
example :
    let h : H := { cells := [some ⟨.arr false [1] 1, 1⟩, some ⟨.arr false [0] 1, 1⟩, some ⟨.int false .w8 7, 1⟩] }
    arrOf h 0 = some (false, [1], 1) ∧ (arrReplace h 0 0 2).1 = true ∧ arrOf (arrReplace h 0 0 2).2 0 = none := by decide

end Props.C12
