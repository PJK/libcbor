import Cbor.Props.C03
/-!
# Text content never decides acceptance, and is preserved (the last two clauses of C16)

`Spec.RT.Canon` and `Lemmas.Ser.Valid` put no condition on the bytes of a text string (only that its length fits the
head), so the round-trip theorem `Props.C03.C03_roundtrip` already says: whatever bytes a definite text string, or the chunks
of an indefinite one, contain — valid UTF-8 or not — the encoding is accepted by the model of `cbor_load` and the decoded item
holds exactly those bytes, with exactly that length.  Spelled out here for the string cases.
-/
namespace Props.C16
open Spec Model

/-- A definite text string is never rejected because of its content, and its bytes are preserved: for every byte sequence `bs`
the model of `cbor_load` accepts the text string carrying `bs`, consumes exactly its encoding, and the decoded item holds
exactly `bs` -/
theorem C16_never_rejects (bs : List UInt8) (L : Nat) (r0 : LoadResult) (hsz : (encode (.text bs)).length < 2 ^ 56) :
    let o := Model.load Lemmas.Refine.ωT L r0 (encode (.text bs)).toArray
    o.item = some (.text bs) ∧ o.result.code = .none ∧ o.result.read = (encode (.text bs)).length ∧ o.fault = false := by
  have hlen : bs.length < 2 ^ 64 := by
    have : bs.length ≤ (encode (.text bs)).length := by simp [encode]
    omega
  have h := Props.C03.C03_roundtrip (.text bs) (by simp [Lemmas.Ser.Valid]) (by simpa [Spec.RT.Canon] using hlen) L
    (by simp [openDepth]) hsz r0
  simp only [Spec.RT.renorm] at h
  exact ⟨h.1, h.2.1, h.2.2.1, h.2.2.2.1⟩

/-- the same for an indefinite text string with arbitrary chunks (needs one open level) -/
theorem C16_never_rejects_chunked (cs : List (List UInt8)) (L : Nat) (hL : 1 ≤ L) (r0 : LoadResult)
    (hsz : (encode (.textI cs)).length < 2 ^ 56) (hc : ∀ c ∈ cs, c.length < 2 ^ 64) :
    let o := Model.load Lemmas.Refine.ωT L r0 (encode (.textI cs)).toArray
    o.item = some (.textI cs) ∧ o.result.code = .none ∧ o.result.read = (encode (.textI cs)).length ∧ o.fault = false := by
  have h := Props.C03.C03_roundtrip (.textI cs) (by simp [Lemmas.Ser.Valid]) (by simpa [Spec.RT.Canon] using hc) L
    (by simpa [openDepth] using hL) hsz r0
  simp only [Spec.RT.renorm] at h
  exact ⟨h.1, h.2.1, h.2.2.1, h.2.2.2.1⟩

/-- non-vacuity: a text string holding the lone continuation byte 0x80 and an overlong encoding is accepted as is -/
example : (Model.load Lemmas.Refine.ωT 2048 ⟨.none, 0, 0⟩ (encode (.text [0x80, 0xc0, 0xaf])).toArray).item.isSome = true := by
  decide +kernel

end Props.C16
