import Cbor.Lemmas.Heap
/-! Live items never have a zero reference count (the remaining hypothesis of `C04_all_released`). -/
namespace Heap

def Pos (h : H) : Prop := ∀ r c, h.get r = some c → 0 < c.rc

theorem pos_congr {h h' : H} (hp : Pos h) (e : h'.cells = h.cells) : Pos h' :=
  fun r c hg => hp r c (by rw [← get_congr e]; exact hg)
theorem pos_bad {h : H} (hp : Pos h) : Pos h.bad := pos_congr hp rfl

theorem pos_put {h : H} (hp : Pos h) (a : Ref) (c' : Option Cell) (hc' : ∀ c, c' = some c → 0 < c.rc) : Pos (h.put a c') := by
  intro r c hg
  rcases get_put_some hg with ⟨_, e⟩ | ⟨_, e⟩
  · exact hc' c e
  · exact hp r c e

theorem pos_snoc {h h' : H} {c : Cell} (hp : Pos h) (e : h'.cells = h.cells ++ [some c]) (hc : 0 < c.rc) : Pos h' := by
  intro r c' hg
  rcases get_snoc_some e hg with ⟨_, rfl⟩ | ⟨_, g⟩
  · exact hc
  · exact hp r c' g

theorem pos_new {h : H} (hp : Pos h) (n : Node) : Pos (h.new n).2 := pos_snoc hp rfl Nat.one_pos

theorem pos_incref {h : H} (hp : Pos h) (x : Ref) : Pos (h.incref x) := by
  unfold H.incref
  cases hg : h.get x with
  | none => exact pos_bad hp
  | some c => exact pos_put hp x _ (fun c' hc' => by cases hc'; exact Nat.succ_pos _)

theorem pos_decref {h : H} (hp : Pos h) (x : Ref) : Pos (h.decref x) :=
  decref_induction (P := Pos) (G := fun _ => True) (fun _ => pos_bad)
    (fun _ r _ p _ _ => ⟨pos_put p r none (fun _ e => by cases e), fun _ _ => trivial⟩)
    (fun _ r _ p _ _ h2 => pos_put p r _ (fun c' e => by cases e; simp only; omega)) _ h x hp trivial

theorem newPost_pos {n : Node} {h : H} {r : Option Ref × H} (hp : NewPost n h r) (hpos : Pos h) : Pos r.2 := by
  obtain ⟨o, h'⟩ := r
  cases o with
  | none => exact pos_congr hpos (hp.refused rfl).1
  | some y => exact pos_snoc hpos (hp.granted).2.1 Nat.one_pos

theorem relink_pos {h h' : H} {a : Ref} {del add : List Ref} (l : Relink h a del add h') (hp : Pos h) : Pos h' := by
  obtain ⟨h1, c, c', e, _, hg, hrc, _, rfl⟩ := l
  exact foldl_inv (P := Pos) (G := fun _ => True) H.incref (fun _ x p _ => pos_incref p x) add _
    (pos_put (pos_congr hp e) a _ fun c0 e0 => by cases e0; rw [hrc]; exact hp a c hg) (fun _ _ => trivial)

theorem linkPost_pos {h : H} {a : Ref} {del xs : List Ref} {r : Bool × H} (l : LinkPost h a del xs r) (hp : Pos h) : Pos r.2 := by
  obtain ⟨ok, h'⟩ := r
  cases ok with
  | false => exact pos_congr hp l.1
  | true =>
    obtain ⟨h1, l, rfl⟩ := l
    exact foldl_inv (P := Pos) (G := fun _ => True) H.decref (fun _ x p _ => pos_decref p x) del _ (relink_pos l hp) (fun _ _ => trivial)

theorem getPost_pos {h : H} {r : Option Ref × H} (g : GetPost h r) (hp : Pos h) : Pos r.2 := by
  obtain ⟨o, h'⟩ := r
  cases o with
  | none => exact pos_congr hp g.1
  | some x => cases g; exact pos_incref hp x

theorem pos_tagSet {h : H} (hp : Pos h) (t x : Ref) : Pos (tagSet h t x).2 := by
  rcases tagSet_post h t x with ⟨old, h', e, l⟩ | e <;> rw [e]
  · exact relink_pos l hp
  · exact pos_bad hp

theorem pos_buildTag {h : H} (hp : Pos h) (ω : Oracle) (n : Nat) (x : Ref) : Pos (buildTag ω h n x).2 := by
  rcases buildTag_post ω h n x with ⟨h', e, hc, _⟩ | ⟨t, h1, h', e, hn, hl⟩ <;> rw [e]
  · exact pos_congr hp hc
  · exact relink_pos hl (newPost_pos hn hp)

/-- after a successful push the pushed item is referenced at least twice (by the array and by the caller) -/
theorem linkPost_ge2 {h h2 : H} {a x : Ref} {c : Cell} (l : LinkPost h a [] [x] (true, h2)) (hp : Pos h) (hg : h2.get x = some c) :
    2 ≤ c.rc := by
  obtain ⟨_, ⟨h1, c0, c', e, _, hg0, hrc, _, rfl⟩, rfl⟩ := l
  have p1 : Pos (h1.put a (some c')) := pos_put (pos_congr hp e) a _ fun c1 e1 => by cases e1; rw [hrc]; exact hp a c0 hg0
  change ((h1.put a (some c')).incref x).get x = some c at hg
  cases hgx : (h1.put a (some c')).get x with
  | none => simp only [H.incref, hgx] at hg; rw [show (h1.put a (some c')).bad.get x = (h1.put a (some c')).get x from rfl, hgx] at hg; cases hg
  | some cx =>
    rw [incref_get_same _ _ _ hgx] at hg
    cases hg
    have := p1 x cx hgx
    simp only; omega

mutual
theorem Copies.pos {ω : Oracle} {h : H} {r : Ref} {out : Option Ref × H} :
    Copies ω h r out → Pos h → Pos out.2
  | .bad _ _, p => pos_bad p
  | .alloc _ _ hp _, p => newPost_pos hp p
  | .members _ _ hp k, p => k.pos (newPost_pos hp p)
  | .tag0 _ _ c, p => c.pos p
  | .tag1 _ _ c, p => pos_decref (pos_buildTag (c.pos p) ω _ _) _
theorem CopiesInto.pos {ω : Oracle} {h : H} {res : Ref} {xs : List Ref} {out : Option Ref × H} :
    CopiesInto ω h res xs out → Pos h → Pos out.2
  | .bad _ _ _, p => pos_bad p
  | .nil _ _, p => p
  | .item0 c, p => pos_decref (c.pos p) _
  | .item1 c l, p => pos_decref (pos_decref (linkPost_pos l (c.pos p)) _) _
  | .item2 c l k, p => k.pos (pos_decref (linkPost_pos l (c.pos p)) _)
  | .pair0 ck cv, p => pos_decref (pos_decref (cv.pos (ck.pos p)) _) _
  | .pair1 ck cv l, p => pos_decref (pos_decref (pos_decref (linkPost_pos l (cv.pos (ck.pos p))) _) _) _
  | .pair2 ck cv l k, p => k.pos (pos_decref (pos_decref (linkPost_pos l (cv.pos (ck.pos p))) _) _)
end

theorem pos_buildChunks (t : Bool) : ∀ (cs : List (List UInt8)) (h : H), Pos h → Pos (buildChunks t cs h).2
  | [], h, hp => by simpa [buildChunks] using hp
  | c :: cs, h, hp => by simp only [buildChunks]; exact pos_buildChunks t cs _ (pos_new hp _)

mutual
theorem pos_build : ∀ (x : Spec.Item) (h : H), Pos h → Pos (build x h).2
  | .uint _ _, h, hp | .negint _ _, h, hp | .bytes _, h, hp | .text _, h, hp
  | .simple _, h, hp | .half _, h, hp | .single _, h, hp | .double _, h, hp => by simp only [build]; exact pos_new hp _
  | .bytesI cs, h, hp | .textI cs, h, hp => by simp only [build]; exact pos_new (pos_buildChunks _ cs h hp) _
  | .array xs, h, hp | .arrayI xs, h, hp => by simp only [build]; exact pos_new (pos_buildList xs h hp) _
  | .map ps, h, hp | .mapI ps, h, hp => by simp only [build]; exact pos_new (pos_buildPairs ps h hp) _
  | .tag _ x, h, hp => by simp only [build]; exact pos_new (pos_build x h hp) _
theorem pos_buildList : ∀ (xs : List Spec.Item) (h : H), Pos h → Pos (buildList xs h).2
  | [], h, hp => by simpa [buildList] using hp
  | x :: xs, h, hp => by simp only [buildList]; exact pos_buildList xs _ (pos_build x h hp)
theorem pos_buildPairs : ∀ (ps : List (Spec.Item × Spec.Item)) (h : H), Pos h → Pos (buildPairs ps h).2
  | [], h, hp => by simpa [buildPairs] using hp
  | (k, v) :: ps, h, hp => by simp only [buildPairs]; exact pos_buildPairs ps _ (pos_build v _ (pos_build k h hp))
end

theorem pos_load {h : H} (hp : Pos h) (ω : Oracle) (L : Nat) (src : Array UInt8) : Pos (h.load ω L src).2.2 := by
  unfold H.load
  simp only
  cases hi : (Model.load (fun i x => ω (h.reqs + i)) L { code := Model.Code.none, position := 0, read := 0 } src).item with
  | none => exact pos_congr hp rfl
  | some x => exact pos_build x _ (pos_congr hp rfl)

end Heap
