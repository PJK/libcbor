import Cbor.Model.HeapBuilder
import Cbor.Lemmas.Link
import Cbor.Lemmas.LoadSafe
import Cbor.Lemmas.LoadSticky
/-!
# The incremental heap builder refines the value-level builder

`HB.load` (the heap-level model of `cbor_load` with the incremental builder callbacks) refines the value-level `Model.load`
(`hload_refines`).  `FrameOwn` / `StackOwn` put the stacks of the two builders side by side, every heap frame owning an
interval of the cells created so far; the clean-up loop of `cbor_load` releases exactly those intervals (`cleanup_freed`).
The two models take the same branch in every heap operation, in `_cbor_builder_append` (`append_sim`), in every callback
(`callback_sim`) and in the loop (`loop_refines`); every way a callback fails goes through `failed_freed`.
-/

namespace HB
open Heap
open Spec (Item)
open Model (strPI)

inductive KeyOwn (h : H) : Option Ref → Nat → Nat → Prop
  | none {m : Nat} : KeyOwn h none m m
  | some {k : Item} {kr : Ref} {m hi : Nat} (ok : Own k h kr m hi) : KeyOwn h (some kr) m hi

/-- frame `hf` of the heap builder is frame `pf` of the value-level builder, laid out in exactly the cells `lo … hi-1`:
the partially built container at `lo`, then its members in order, then the pending key of a map.  A map frame is waiting
for a value exactly when its countdown is odd (definite) or `1` (indefinite); `room` then says that the slot for the pair
exists already (the capacity was secured when the key was added), which is why adding the value cannot fail — the C code
asserts it: `CBOR_ASSERT(!ctx->creation_failed)`. -/
inductive FrameOwn (h : H) : Model.Frame → Frame → Nat → Nat → Prop
  | arrD {lo hi al : Nat} {rs : List Ref} {xs : List Item} {sub : UInt64} (hg : h.get lo = some ⟨.arr true rs al, 1⟩)
      (ol : OwnList xs h rs (lo + 1) hi) : FrameOwn h ⟨.arrD al xs, sub⟩ ⟨lo, sub, none⟩ lo hi
  | arrI {lo hi al : Nat} {rs : List Ref} {xs : List Item} {sub : UInt64} (hg : h.get lo = some ⟨.arr false rs al, 1⟩)
      (ol : OwnList xs h rs (lo + 1) hi) : FrameOwn h ⟨.arrI al xs, sub⟩ ⟨lo, sub, none⟩ lo hi
  | mapD {lo hi al : Nat} {rs : List (Ref × Ref)} {kvs : List (Item × Item)} {sub : UInt64} (hg : h.get lo = some ⟨.map true rs al, 1⟩)
      (op : OwnPairs kvs h rs (lo + 1) hi) (even : ¬ sub % 2 = 1) : FrameOwn h ⟨.mapD al kvs none, sub⟩ ⟨lo, sub, none⟩ lo hi
  | mapDk {lo mid hi al : Nat} {rs : List (Ref × Ref)} {kvs : List (Item × Item)} {k : Item} {kr : Ref} {sub : UInt64}
      (hg : h.get lo = some ⟨.map true rs al, 1⟩) (op : OwnPairs kvs h rs (lo + 1) mid) (ok : Own k h kr mid hi)
      (odd : sub % 2 = 1) (room : kvs.length < al) : FrameOwn h ⟨.mapD al kvs (some k), sub⟩ ⟨lo, sub, some kr⟩ lo hi
  | mapI {lo hi al : Nat} {rs : List (Ref × Ref)} {kvs : List (Item × Item)} (hg : h.get lo = some ⟨.map false rs al, 1⟩)
      (op : OwnPairs kvs h rs (lo + 1) hi) (cap : kvs.length ≤ al) : FrameOwn h ⟨.mapI al kvs none, 0⟩ ⟨lo, 0, none⟩ lo hi
  | mapIk {lo mid hi al : Nat} {rs : List (Ref × Ref)} {kvs : List (Item × Item)} {k : Item} {kr : Ref}
      (hg : h.get lo = some ⟨.map false rs al, 1⟩) (op : OwnPairs kvs h rs (lo + 1) mid) (ok : Own k h kr mid hi)
      (room : kvs.length < al) : FrameOwn h ⟨.mapI al kvs (some k), 1⟩ ⟨lo, 1, some kr⟩ lo hi
  | tag {lo hi n : Nat} {sub : UInt64} (hg : h.get lo = some ⟨.tag n none, 1⟩) (e : hi = lo + 1) : FrameOwn h ⟨.tag n none, sub⟩ ⟨lo, sub, none⟩ lo hi
  | strI {lo hi cap : Nat} {t : Bool} {rs : List Ref} {cs : List (List UInt8)} {sub : UInt64} (hg : h.get lo = some ⟨.strI t rs cap, 1⟩)
      (oc : OwnChunks t cs h rs (lo + 1) hi) : FrameOwn h ⟨strPI t cap cs, sub⟩ ⟨lo, sub, none⟩ lo hi

/-- top first; the frames own consecutive intervals that together make up `N … hi-1` -/
inductive StackOwn (h : H) (N : Nat) : List Model.Frame → List Frame → Nat → Prop
  | nil : StackOwn h N [] [] N
  | cons {pf : Model.Frame} {hf : Frame} {ps : List Model.Frame} {hs : List Frame} {lo hi : Nat} (fo : FrameOwn h pf hf lo hi)
      (so : StackOwn h N ps hs lo) : StackOwn h N (pf :: ps) (hf :: hs) hi

section
variable {h h' : H} {pf : Model.Frame} {hf : Frame} {ps : List Model.Frame} {hs : List Frame} {N lo hi : Nat}

theorem frameOwn_lt (fo : FrameOwn h pf hf lo hi) : lo < hi := by
  cases fo with
  | arrD _ ol | arrI _ ol => have := ownList_le ol; omega
  | mapD _ op _ | mapI _ op _ => have := ownPairs_le op; omega
  | mapDk _ op ok _ _ | mapIk _ op ok _ => have := ownPairs_le op; have := own_lt ok; omega
  | tag _ e => omega
  | strI _ oc => have := ownChunks_le oc; omega

theorem frameOwn_congr (e : ∀ r, lo ≤ r → r < hi → h'.get r = h.get r) (fo : FrameOwn h pf hf lo hi) : FrameOwn h' pf hf lo hi := by
  have e0 : h'.get lo = h.get lo := e lo (Nat.le_refl _) (frameOwn_lt fo)
  have el : ∀ r, lo + 1 ≤ r → r < hi → h'.get r = h.get r := fun r a b => e r (by omega) b
  cases fo with
  | arrD hg ol => exact .arrD (e0.trans hg) (ownList_congr el ol)
  | arrI hg ol => exact .arrI (e0.trans hg) (ownList_congr el ol)
  | mapD hg op ev => exact .mapD (e0.trans hg) (ownPairs_congr el op) ev
  | mapI hg op cap => exact .mapI (e0.trans hg) (ownPairs_congr el op) cap
  | mapDk hg op ok odd room =>
    have l1 := ownPairs_le op
    have l2 := own_lt ok
    exact .mapDk (e0.trans hg) (ownPairs_congr (fun r a b => el r a (by omega)) op)
      (own_congr (fun r a b => el r (by omega) b) ok) odd room
  | mapIk hg op ok room =>
    have l1 := ownPairs_le op
    have l2 := own_lt ok
    exact .mapIk (e0.trans hg) (ownPairs_congr (fun r a b => el r a (by omega)) op)
      (own_congr (fun r a b => el r (by omega) b) ok) room
  | tag hg e1 => exact .tag (e0.trans hg) e1
  | strI hg oc => exact .strI (e0.trans hg) (ownChunks_congr el oc)

theorem stackOwn_le (so : StackOwn h N ps hs hi) : N ≤ hi := by
  induction so with
  | nil => exact Nat.le_refl _
  | cons fo _ ih => have := frameOwn_lt fo; omega

theorem stackOwn_length (so : StackOwn h N ps hs hi) : hs.length = ps.length := by
  induction so with
  | nil => rfl
  | cons _ _ ih => simp [ih]

theorem stackOwn_congr (e : ∀ r, N ≤ r → r < hi → h'.get r = h.get r) (so : StackOwn h N ps hs hi) : StackOwn h' N ps hs hi := by
  induction so with
  | nil => exact .nil
  | cons fo so ih =>
    have l1 := frameOwn_lt fo
    have l2 := stackOwn_le so
    exact .cons (frameOwn_congr (fun r a b => e r (by omega) b) fo) (ih (fun r a b => e r a (by omega)))

theorem FrameOwn.finish (fo : FrameOwn h pf hf lo hi) (ht : ∀ n, pf.item ≠ .tag n none) : hf.item = lo ∧ ∃ mid, Own pf.item.finish h lo lo mid ∧ KeyOwn h hf.key mid hi := by
  cases fo with
  | arrD hg o | arrI hg o | mapD hg o _ | mapI hg o _ =>
    exact ⟨rfl, _, ⟨_, _, _, _, hg, Around.first _ _, o⟩, .none⟩
  | mapDk hg o ok _ _ | mapIk hg o ok _ =>
    exact ⟨rfl, _, ⟨_, _, _, _, hg, Around.first _ _, o⟩, .some ok⟩
  | tag hg _ => exact absurd rfl (ht _)
  | @strI _ _ _ t _ _ _ hg o =>
    cases t <;> exact ⟨rfl, _, ⟨_, _, _, _, hg, Around.first _ _, o⟩, .none⟩

theorem FrameOwn.done (fo : FrameOwn h pf hf lo hi) (hk : hf.key = none)
    (ht : ∀ n, pf.item ≠ .tag n none) : Own pf.item.finish h lo lo hi := by
  obtain ⟨_, mid, ho, ko⟩ := fo.finish ht
  rw [hk] at ko
  cases ko; exact ho

theorem release_with_key {t k : Item} {mid : Nat} {kr : Ref} (hm : Own t h lo lo mid) (hk : Own k h kr mid hi) (hhi : hi ≤ h.cells.length) :
    Freed h ((h.decref lo).decref kr) lo hi := by
  have b1 := own_lt hm
  have b2 := own_lt hk
  have f1 := hdecref_own hm (by omega)
  have hk' : Own k (h.decref lo) kr mid hi := own_congr (fun r hr1 _ => f1.above hr1) hk
  have f2 := hdecref_own hk' (by rw [f1.len]; exact hhi)
  exact f1.append f2 (by omega) (by omega)

/-- one iteration of the clean-up loop of `cbor_load` releases exactly the frame's interval -/
theorem frame_release (fo : FrameOwn h pf hf lo hi) (hhi : hi ≤ h.cells.length) :
    Freed h (match hf.key with | some k => (h.decref hf.item).decref k | none => h.decref hf.item) lo hi := by
  obtain ⟨r, s, key⟩ := hf
  have main : (∀ n, pf.item ≠ .tag n none) →
      Freed h (match key with | some k => (h.decref r).decref k | none => h.decref r) lo hi := fun ht => by
    obtain ⟨e, mid, ho, ko⟩ := fo.finish ht
    simp only at e ko
    subst e
    cases ko with
    | none => exact hdecref_own ho hhi
    | some ok => exact release_with_key ho ok hhi
  cases fo with
  | tag hg e =>
    subst e
    unfold H.decref H.fuel
    rw [decref_root hg]
    exact freed_put_none hg
  | @strI _ _ _ t _ _ _ _ _ => exact main (fun n => by cases t <;> exact fun e => nomatch e)
  | _ => exact main (fun n e => nomatch e)

end

/-- the clean-up loop of `cbor_load` releases every cell the frames own -/
theorem cleanup_freed {N : Nat} : ∀ (hs : List Frame) {ps : List Model.Frame} {h : H} {hi : Nat},
    StackOwn h N ps hs hi → hi ≤ h.cells.length → Freed h (cleanup h hs) N hi
  | [], _, h, _, .nil, _ => Freed.empty h N
  | _ :: hs, _, h, _, .cons fo so, hhi => by
    have l1 := frameOwn_lt fo
    have l2 := stackOwn_le so
    have f1 := frame_release fo hhi
    have f2 := cleanup_freed hs (stackOwn_congr (fun r _ b => f1.below b) so) (by rw [f1.len]; omega)
    exact f1.append' f2 l2 (by omega)

/-- the oracle the value-level model sees when the heap has already made `R0` requests -/
def orc (ω : Heap.Oracle) (R0 : Nat) : Model.Oracle := fun i _ => ω (R0 + i)

theorem alloc_orc (ω : Heap.Oracle) (R0 : Nat) (c : Model.Ctx) (b : Nat) :
    c.alloc (orc ω R0) b = (ω (R0 + c.reqs), { c with reqs := c.reqs + 1 }) := rfl

theorem orc_apply (ω : Heap.Oracle) (R0 i b : Nat) : orc ω R0 i b = ω (R0 + i) := rfl

theorem grow_sim (ω : Heap.Oracle) (R0 : Nat) (h : H) (c : Model.Ctx) (sz al : Nat) (hr : h.reqs = R0 + c.reqs) :
    ∃ ok k, c.growAlloc (orc ω R0) sz al = (ok, { c with reqs := c.reqs + k }) ∧
      Heap.grow ω h sz al = (if ok then some (Model.grow al) else none, { h with reqs := h.reqs + k }) := by
  unfold Model.Ctx.growAlloc Model.Ctx.allocMultiple Heap.grow mulOk Model.grow Model.growth
  by_cases g1 : Gen._cbor_safe_to_multiply (UInt64.ofNat 2) (UInt64.ofNat al) = true
  · by_cases g2 : Gen._cbor_safe_to_multiply (UInt64.ofNat sz) (UInt64.ofNat (if al = 0 then 1 else 2 * al)) = true
    · refine ⟨ω h.reqs, 1, ?_, ?_⟩
      · simp only [g1, g2, if_true, alloc_orc, hr]
      · simp only [g1, g2, Bool.not_true, Bool.false_eq_true, if_false, H.req]
        split <;> simp_all
    · refine ⟨false, 0, ?_, ?_⟩
      · simp only [g1, g2, if_true, if_false, Bool.false_eq_true]; rfl
      · simp only [g1, g2, Bool.not_true, Bool.not_false, Bool.false_eq_true, if_true, if_false]; rfl
  · refine ⟨false, 0, ?_, ?_⟩
    · simp only [g1, if_false, Bool.false_eq_true]; rfl
    · simp only [g1, Bool.not_false, if_true, Bool.false_eq_true, if_false]
      rfl

section
variable {ω : Oracle} {h h1 : H} {a y s m x v : Ref} {d t : Bool} {rs cs : List Ref} {ps : List (Ref × Ref)}
  {al na cap k rc rc' : Nat} {n nx nv : Node} {b : List UInt8}

theorem pushDec_room (ha : h.get a = some ⟨.arr d rs al, 1⟩) (hy : h.get y = some ⟨n, 1⟩) (hne : a ≠ y) (hlt : rs.length < al) :
    ∃ h', pushDec ω h a y = (true, h') ∧ Upd h h' a ⟨.arr d (rs ++ [y]) al, 1⟩ 0 := by
  have : arrPush ω h a y = (true, (h.put a (some ⟨.arr d (rs ++ [y]) al, 1⟩)).incref y) := by
    cases d <;> simp [arrPush, ha, Nat.not_le.mpr hlt]
  unfold pushDec
  rw [this]
  exact ⟨_, rfl, link_release (Req.refl h) _ (get_lt ha) hy hne⟩

theorem pushDec_full_def (ha : h.get a = some ⟨.arr true rs al, rc⟩) (hge : al ≤ rs.length) :
    pushDec ω h a y = (false, h.decref y) := by
  simp [pushDec, arrPush, ha, hge]

theorem pushDec_grow_ok (ha : h.get a = some ⟨.arr false rs al, 1⟩) (hy : h.get y = some ⟨n, 1⟩) (hne : a ≠ y) (hge : al ≤ rs.length)
    (hg : Heap.grow ω h 8 al = (some na, h1)) (q : Req h h1 k) :
    ∃ h', pushDec ω h a y = (true, h') ∧ Upd h h' a ⟨.arr false (rs ++ [y]) na, 1⟩ k := by
  have : arrPush ω h a y = (true, (h1.put a (some ⟨.arr false (rs ++ [y]) na, 1⟩)).incref y) := by
    simp [arrPush, ha, hge, hg]
  unfold pushDec
  rw [this]
  exact ⟨_, rfl, link_release q _ (get_lt ha) hy hne⟩

theorem pushDec_grow_fail (ha : h.get a = some ⟨.arr false rs al, rc⟩) (hge : al ≤ rs.length)
    (hg : Heap.grow ω h 8 al = (none, h1)) :
    pushDec ω h a y = (false, h1.decref y) := by
  simp [pushDec, arrPush, ha, hge, hg]

theorem chunkDec_room (hs : h.get s = some ⟨.strI t cs cap, 1⟩) (hy : h.get y = some ⟨.str t b, 1⟩) (hne : s ≠ y) (hlt : cs.length ≠ cap) :
    ∃ h', chunkDec ω h s y = (true, h') ∧ Upd h h' s ⟨.strI t (cs ++ [y]) cap, 1⟩ 0 := by
  have : addChunk ω h s y = (true, (h.put s (some ⟨.strI t (cs ++ [y]) cap, 1⟩)).incref y) := by
    simp [addChunk, hs, hy, hlt]
  unfold chunkDec
  rw [this]
  exact ⟨_, rfl, link_release (Req.refl h) _ (get_lt hs) hy hne⟩

theorem chunkDec_grow_ok (hs : h.get s = some ⟨.strI t cs cap, 1⟩) (hy : h.get y = some ⟨.str t b, 1⟩) (hne : s ≠ y) (hfull : cs.length = cap)
    (hg : Heap.grow ω h 8 cap = (some na, h1)) (q : Req h h1 k) :
    ∃ h', chunkDec ω h s y = (true, h') ∧ Upd h h' s ⟨.strI t (cs ++ [y]) na, 1⟩ k := by
  have : addChunk ω h s y = (true, (h1.put s (some ⟨.strI t (cs ++ [y]) na, 1⟩)).incref y) := by
    simp [addChunk, hs, hy, hfull, hg]
  unfold chunkDec
  rw [this]
  exact ⟨_, rfl, link_release q _ (get_lt hs) hy hne⟩

theorem chunkDec_grow_fail (hs : h.get s = some ⟨.strI t cs cap, rc⟩) (hy : h.get y = some ⟨.str t b, rc'⟩) (hfull : cs.length = cap)
    (hg : Heap.grow ω h 8 cap = (none, h1)) :
    chunkDec ω h s y = (false, h1.decref y) := by
  simp [chunkDec, addChunk, hs, hy, hfull, hg]

theorem keyDec_room (hm : h.get m = some ⟨.map d ps al, 1⟩) (hy : h.get y = some ⟨n, 1⟩) (hlt : ps.length < al) :
    ∃ h', keyDec ω h m y = (true, h') ∧ Upd h h' m ⟨.map d ps al, 1⟩ 0 := by
  have : mapKey ω h m = (true, h) := by cases d <;> simp [mapKey, hm, Nat.not_le.mpr hlt]
  unfold keyDec
  rw [this]
  exact ⟨h, by simp only [if_true, incref_decref (rc := 0) hy], ⟨rfl, rfl, rfl, hm, fun _ _ => rfl⟩⟩

theorem keyDec_full_def (hm : h.get m = some ⟨.map true ps al, rc⟩) (hge : al ≤ ps.length) :
    keyDec ω h m y = (false, h.decref y) := by
  simp [keyDec, mapKey, hm, hge]

theorem keyDec_grow_ok (hm : h.get m = some ⟨.map false ps al, 1⟩) (hy : h.get y = some ⟨n, 1⟩) (hne : m ≠ y) (hge : al ≤ ps.length)
    (hg : Heap.grow ω h 16 al = (some na, h1)) (q : Req h h1 k) :
    ∃ h', keyDec ω h m y = (true, h') ∧ Upd h h' m ⟨.map false ps na, 1⟩ k := by
  have : mapKey ω h m = (true, h1.put m (some ⟨.map false ps na, 1⟩)) := by simp [mapKey, hm, hge, hg]
  have hy1 : (h1.put m (some ⟨.map false ps na, 1⟩)).get y = some ⟨n, 1⟩ := by
    rw [get_put_other _ _ _ _ (Ne.symm hne), q.get]; exact hy
  unfold keyDec
  rw [this]
  exact ⟨_, by simp only [if_true, incref_decref (rc := 0) hy1], upd_put q (get_lt hm) _⟩

theorem keyDec_grow_fail (hm : h.get m = some ⟨.map false ps al, rc⟩) (hge : al ≤ ps.length)
    (hg : Heap.grow ω h 16 al = (none, h1)) :
    keyDec ω h m y = (false, h1.decref y) := by
  simp [keyDec, mapKey, hm, hge, hg]

theorem valDec_room (hm : h.get m = some ⟨.map d ps al, 1⟩) (hx : h.get x = some ⟨nx, 1⟩) (hv : h.get v = some ⟨nv, 1⟩)
    (hmx : m ≠ x) (hmv : m ≠ v) (hxv : x ≠ v) (hlt : ps.length < al) :
    ∃ h', valDec ω h m x v = (true, h') ∧ Upd h h' m ⟨.map d (ps ++ [(x, v)]) al, 1⟩ 0 := by
  have : mapAdd ω h m x v = (true, ((h.put m (some ⟨.map d (ps ++ [(x, v)]) al, 1⟩)).incref x).incref v) := by
    cases d <;> simp [mapAdd, hm, Nat.not_le.mpr hlt]
  unfold valDec
  rw [this]
  exact ⟨_, rfl, (link2_release (Req.refl h) _ (get_lt hm) hx hv hmx hmv hxv).1⟩

theorem tagSet_dec {t y : Ref} {n : Nat} {ny : Node}
    (ht : h.get t = some ⟨.tag n none, 1⟩) (hy : h.get y = some ⟨ny, 1⟩) (hne : t ≠ y) :
    Upd h ((tagSet h t y).2.decref y) t ⟨.tag n (some y), 1⟩ 0 := by
  have : tagSet h t y = (none, (h.put t (some ⟨.tag n (some y), 1⟩)).incref y) := by simp [tagSet, ht]
  rw [this]
  exact link_release (Req.refl h) _ (get_lt ht) hy hne

end

/-- the part of the simulation relation that holds at every point -/
structure Base (N : Nat) (h0 : H) (c : Model.Ctx) (hc : Ctx) : Prop where
  cf : hc.creationFailed = c.creationFailed
  se : hc.syntaxError = c.syntaxError
  reqs : hc.h.reqs = h0.reqs + c.reqs
  keeps : Keeps N h0 hc.h

theorem Base.step {N : Nat} {h0 : H} {c c' : Model.Ctx} {hc hc' : Ctx} {k : Nat} (b : Base N h0 c hc)
    (kp : Keeps N hc.h hc'.h) (hq : hc'.h.reqs = hc.h.reqs + k) (hr : c'.reqs = c.reqs + k)
    (hcf : hc'.creationFailed = c'.creationFailed) (hse : hc'.syntaxError = c'.syntaxError) : Base N h0 c' hc' :=
  ⟨hcf, hse, by rw [hq, hr, b.reqs, Nat.add_assoc], b.keeps.trans kp⟩

structure Live (N : Nat) (h0 : H) (c : Model.Ctx) (hc : Ctx) (lo : Nat) : Prop where
  base : Base N h0 c hc
  cf : c.creationFailed = false
  se : c.syntaxError = false
  root : c.root = none
  own : StackOwn hc.h N c.stack hc.stack lo

/-- between two callbacks: the frames own every cell created so far -/
abbrev Good (N : Nat) (h0 : H) (c : Model.Ctx) (hc : Ctx) : Prop := Live N h0 c hc hc.h.cells.length

/-- in the middle of a callback: a finished item `t` at `y` occupies the cells above the frames -/
structure Mid (N : Nat) (h0 : H) (c : Model.Ctx) (hc : Ctx) (lo : Nat) (t : Item) (y : Ref) : Prop extends Live N h0 c hc lo where
  item : Own t hc.h y lo hc.h.cells.length

structure Done (N : Nat) (h0 : H) (c : Model.Ctx) (hc : Ctx) : Prop where
  base : Base N h0 c hc
  cf : c.creationFailed = false
  se : c.syntaxError = false
  st : c.stack = []
  hst : hc.stack = []
  own : ∃ t y, c.root = some t ∧ hc.root = some y ∧ Own t hc.h y N hc.h.cells.length

/-- a callback failed: the frames still own their cells, every other cell created has been released -/
structure Failed (N : Nat) (h0 : H) (c : Model.Ctx) (hc : Ctx) : Prop where
  base : Base N h0 c hc
  flag : c.creationFailed = true ∨ c.syntaxError = true
  own : ∃ hi, StackOwn hc.h N c.stack hc.stack hi ∧ hi ≤ hc.h.cells.length ∧ ∀ x, hi ≤ x → hc.h.get x = none

def Post (N : Nat) (h0 : H) (c : Model.Ctx) (hc : Ctx) : Prop := Good N h0 c hc ∨ Done N h0 c hc ∨ Failed N h0 c hc

variable {N : Nat} {h0 : H} {c : Model.Ctx} {hc : Ctx}

theorem failed_freed {c' : Model.Ctx} {hc' : Ctx} {lo : Nat} {h1 : H} {k : Nat}
    (l : Live N h0 c hc lo) (q : Req hc.h h1 k) (f : Freed h1 hc'.h lo h1.cells.length) (hle : lo ≤ h1.cells.length)
    (hst : c'.stack = c.stack) (hhst : hc'.stack = hc.stack) (hr : c'.reqs = c.reqs + k)
    (hcf : hc'.creationFailed = c'.creationFailed) (hse : hc'.syntaxError = c'.syntaxError)
    (flag : c'.creationFailed = true ∨ c'.syntaxError = true) : Post N h0 c' hc' := by
  have hN := stackOwn_le l.own
  refine Or.inr (Or.inr ⟨l.base.step ((q.keeps N).trans (f.keeps hN)) (f.reqs.trans q.reqs) hr hcf hse, flag, lo, ?_, ?_, ?_⟩)
  · rw [hst, hhst]
    exact stackOwn_congr (fun r _ hr => by rw [f.below hr]; exact q.get r) l.own
  · rw [f.len]; exact hle
  · exact f.dead (get_none_of_ge h1)

theorem failed_req (g : Good N h0 c hc) {h1 : H} {k : Nat} (q : Req hc.h h1 k) :
    Post N h0 (c.refused k) { hc with h := h1, creationFailed := true } :=
  failed_freed g q (by rw [q.cells]; exact Freed.empty h1 _) (by rw [q.cells]; exact Nat.le_refl _) rfl rfl rfl rfl g.base.se (Or.inl rfl)

theorem failed_syntax (g : Good N h0 c hc) :
    Post N h0 { c with syntaxError := true } { hc with syntaxError := true } :=
  failed_freed g (Req.refl _) (Freed.empty _ _) (Nat.le_refl _) rfl rfl rfl g.base.cf rfl (Or.inr rfl)

theorem Mid.release {lo : Nat} {t : Item} {y : Ref} {h1 : H} {k : Nat}
    (m : Mid N h0 c hc lo t y) (q : Req hc.h h1 k) : Freed h1 (h1.decref y) lo h1.cells.length ∧ lo ≤ h1.cells.length := by
  have ho1 : Own t h1 y lo h1.cells.length := by
    rw [q.cells]; exact own_congr (fun r _ _ => q.get r) m.item
  exact ⟨hdecref_own ho1 (Nat.le_refl _), Nat.le_of_lt (own_lt ho1).1⟩

theorem failed_release {lo : Nat} {t : Item} {y : Ref} {h1 : H} {k : Nat}
    (m : Mid N h0 c hc lo t y) (q : Req hc.h h1 k) :
    Post N h0 (c.refused k) { hc with h := h1.decref y, creationFailed := true } :=
  failed_freed m.toLive q (m.release q).1 (m.release q).2 rfl rfl rfl rfl m.base.se (Or.inl rfl)

theorem failed_release_syntax {lo : Nat} {t : Item} {y : Ref} (m : Mid N h0 c hc lo t y) :
    Post N h0 { c with syntaxError := true } { hc with h := hc.h.decref y, syntaxError := true } :=
  failed_freed m.toLive (Req.refl _) (m.release (Req.refl _)).1 (m.release (Req.refl _)).2 rfl rfl rfl m.base.cf rfl (Or.inr rfl)

section
variable {h h' : H} {a : Nat} {cell : Cell} {k lo : Nat} (u : Upd h h' a cell k)
include u

theorem upd_stackOwn {ps : List Model.Frame} {hs : List Frame} (so : StackOwn h N ps hs a) : StackOwn h' N ps hs a :=
  stackOwn_congr (fun r _ hr => u.other r (Nat.ne_of_lt hr)) so

theorem upd_own {hi : Nat} (hlo : a < lo) {t : Item} {y : Ref} (it : Own t h y lo hi) : Own t h' y lo hi :=
  own_congr (fun r hr _ => u.other r (Nat.ne_of_gt (Nat.lt_of_lt_of_le hlo hr))) it

theorem upd_ownPairs {mid : Nat} {kvs : List (Item × Item)} {rs : List (Ref × Ref)} (op : OwnPairs kvs h rs (a + 1) mid) : OwnPairs kvs h' rs (a + 1) mid :=
  ownPairs_congr (fun r hr _ => u.other r (Nat.ne_of_gt hr)) op

theorem upd_ownPairs_val {mid : Nat} {kvs : List (Item × Item)} {rs : List (Ref × Ref)} {kk t : Item} {kr y : Ref} (op : OwnPairs kvs h rs (a + 1) mid) (okk : Own kk h kr mid lo)
    (it : Own t h y lo h.cells.length) : OwnPairs (kvs ++ [(kk, t)]) h' (rs ++ [(kr, y)]) (a + 1) h'.cells.length := by
  rw [ownPairs_iff, List.flatMap_append, List.flatMap_append]
  exact u.ownList_append ((ownPairs_iff kvs rs _ _).mp op) (ownList_cons.mpr ⟨kr, [y], lo, rfl, okk, ownList_single it⟩)

theorem upd_ownChunks {t : Bool} {cs : List (List UInt8)} {rs : List Ref} {b : List UInt8} (oc : OwnChunks t cs h rs (a + 1) lo) (hy : h.get lo = some ⟨.str t b, 1⟩)
    (hl : h.cells.length = lo + 1) : OwnChunks t (cs ++ [b]) h' (rs ++ [lo]) (a + 1) h'.cells.length := by
  have it : Own ((if t then Item.text else Item.bytes) b) h lo lo h.cells.length := by
    rw [hl]; cases t <;> exact ⟨rfl, rfl, hy⟩
  rw [ownChunks_iff, List.map_append]
  exact u.ownList_append ((ownChunks_iff t cs rs _ _).mp oc) (ownList_single it)

end

theorem odd_pred (s : UInt64) (h : s % 2 = 1) : ¬ (s - 1) % 2 = 1 := by
  have h1 := (Lemmas.u64_odd_iff s).mp h
  have h2 := Lemmas.u64_pred_toNat s (by omega)
  intro e
  have := (Lemmas.u64_odd_iff _).mp e
  omega

theorem even_pred (s : UInt64) (h : ¬ s % 2 = 1) (h0 : ¬ s = 0) : (s - 1) % 2 = 1 := by
  have h1 : ¬ s.toNat % 2 = 1 := fun e => h ((Lemmas.u64_odd_iff s).mpr e)
  have h3 : s.toNat ≠ 0 := fun e => h0 ((Lemmas.u64_zero_iff s).mpr e)
  have h2 := Lemmas.u64_pred_toNat s (by omega)
  exact (Lemmas.u64_odd_iff _).mpr (by omega)

theorem even_double (n : UInt64) : ¬ (n * 2) % 2 = 1 := by
  intro e
  have h1 := (Lemmas.u64_odd_iff _).mp e
  rw [UInt64.toNat_mul, show (2 : UInt64).toNat = 2 from rfl] at h1
  omega

section
variable {ω : Oracle} {fuel lo lo' mid al : Nat} {t : Item} {y : Ref} {ps : List Model.Frame} {hs : List Frame} {sub : UInt64}
  (m : Mid N h0 c hc lo t y) (so : StackOwn hc.h N ps hs lo')
include m

theorem Mid.cell : lo ≤ y ∧ ∃ ny, hc.h.get y = some ⟨ny, 1⟩ := ⟨(own_lt m.item).2.1, own_root m.item⟩

include so

/-- the frame on top, updated, stays where it is -/
theorem Mid.stay {h' : H} {cell : Cell} {k : Nat} {pf : Model.Frame} {fr : Frame}
    (u : Upd hc.h h' lo' cell k) (fo : FrameOwn h' pf fr lo' h'.cells.length) :
    Post N h0 { c.asked k with stack := pf :: ps } { hc with h := h', stack := fr :: hs } :=
  Or.inl ⟨m.base.step (u.keeps (stackOwn_le so)) u.reqs rfl m.base.cf m.base.se, m.cf, m.se, m.root, .cons fo (upd_stackOwn u so)⟩

/-- the frame on top is complete: it is the item now, and the frames below are the stack -/
theorem Mid.pop {h' : H} {cell : Cell} {t' : Item} (u : Upd hc.h h' lo' cell 0) (ho : Own t' h' lo' lo' h'.cells.length) :
    Mid N h0 { c with stack := ps } { hc with h := h', stack := hs } lo' t' lo' :=
  ⟨⟨m.base.step (u.keeps (stackOwn_le so)) u.reqs rfl m.base.cf m.base.se, m.cf, m.se, m.root, upd_stackOwn u so⟩, ho⟩

variable {xs : List Item} {rs : List Ref} {kvs : List (Item × Item)} {prs : List (Ref × Ref)} {kk : Item} {kr : Ref}
  (ih : ∀ t y c hc lo, Mid N h0 c hc lo t y → (Model.append (orc ω h0.reqs) fuel t c).fault = false →
    Post N h0 (Model.append (orc ω h0.reqs) fuel t c) (append ω fuel y hc))
  (hf : (Model.append (orc ω h0.reqs) (fuel + 1) t c).fault = false)

include ih hf in
theorem append_arrD (hst : c.stack = ⟨.arrD al xs, sub⟩ :: ps) (hhst : hc.stack = ⟨lo', sub, none⟩ :: hs)
    (hg : hc.h.get lo' = some ⟨.arr true rs al, 1⟩) (ol : OwnList xs hc.h rs (lo' + 1) lo) :
    Post N h0 (Model.append (orc ω h0.reqs) (fuel + 1) t c) (append ω (fuel + 1) y hc) := by
  -- the stacks as literals: unfolding then leaves the very records `failed_release`, `Mid.stay` and `Mid.pop` speak of
  cases c; cases hc; cases hst; cases hhst
  have hlen := ownList_length ol
  have hlo := ownList_le ol
  obtain ⟨hy, ny, hgy⟩ := m.cell
  simp only [Model.append, append, hg, ge_iff_le] at hf ⊢
  by_cases hs0 : sub = 0
  · simp [hs0] at hf
  · simp only [hs0, if_false] at hf ⊢
    by_cases hfull : al ≤ xs.length
    · simp only [hfull, if_true] at hf ⊢
      rw [pushDec_full_def hg (by omega)]
      exact failed_release m (Req.refl _)
    · simp only [hfull, if_false] at hf ⊢
      obtain ⟨h', hp, u⟩ := pushDec_room (ω := ω) hg hgy (Nat.ne_of_lt (by omega)) (by omega)
      rw [hp]
      simp only
      have fo' := FrameOwn.arrD (sub := sub - 1) u.cell (u.ownList_append ol (ownList_single m.item))
      by_cases hz : sub - 1 = 0
      · simp only [hz, if_true] at hf ⊢
        exact ih _ _ _ _ _ (m.pop so u (fo'.done rfl (fun _ e => nomatch e))) hf
      · simp only [hz, if_false]
        exact m.stay so u fo'

theorem append_arrI (hst : c.stack = ⟨.arrI al xs, sub⟩ :: ps) (hhst : hc.stack = ⟨lo', sub, none⟩ :: hs)
    (hg : hc.h.get lo' = some ⟨.arr false rs al, 1⟩) (ol : OwnList xs hc.h rs (lo' + 1) lo) :
    Post N h0 (Model.append (orc ω h0.reqs) (fuel + 1) t c) (append ω (fuel + 1) y hc) := by
  cases c; cases hc; cases hst; cases hhst
  have hlen := ownList_length ol
  have hlo := ownList_le ol
  obtain ⟨hy, ny, hgy⟩ := m.cell
  have hne : lo' ≠ y := Nat.ne_of_lt (by omega)
  simp only [Model.append, append, hg, ge_iff_le]
  by_cases hfull : al ≤ xs.length
  · simp only [hfull, if_true]
    obtain ⟨ok, k, hm, hgr⟩ := grow_sim ω h0.reqs _ _ Model.szPtr al m.base.reqs
    simp only [hm]
    cases ok with
    | false =>
      simp only [Bool.false_eq_true, if_false] at hgr ⊢
      rw [pushDec_grow_fail hg (by omega) hgr]
      exact failed_release m (req_mk _ k)
    | true =>
      simp only [if_true] at hgr ⊢
      obtain ⟨h', hp, u⟩ := pushDec_grow_ok hg hgy hne (by omega) hgr (req_mk _ k)
      rw [hp]
      exact m.stay so u (.arrI u.cell (u.ownList_append ol (ownList_single m.item)))
  · simp only [hfull, if_false]
    obtain ⟨h', hp, u⟩ := pushDec_room (ω := ω) hg hgy hne (by omega)
    rw [hp]
    exact m.stay so u (.arrI u.cell (u.ownList_append ol (ownList_single m.item)))

omit m so in
/-- a value for the pending key `kk`: the pair goes into the slot secured when the key arrived -/
theorem valDec_own {h : H} {d : Bool} (hg : h.get lo' = some ⟨.map d prs al, 1⟩) (op : OwnPairs kvs h prs (lo' + 1) mid)
    (ok : Own kk h kr mid lo) (it : Own t h y lo h.cells.length) (room : kvs.length < al) :
    ∃ h', valDec ω h lo' kr y = (true, h') ∧ Upd h h' lo' ⟨.map d (prs ++ [(kr, y)]) al, 1⟩ 0 ∧
      OwnPairs (kvs ++ [(kk, t)]) h' (prs ++ [(kr, y)]) (lo' + 1) h'.cells.length := by
  have hlen := ownPairs_length op
  have hmid := ownPairs_le op
  have hkb := own_lt ok
  have hyb := own_lt it
  obtain ⟨nk, hgk⟩ := own_root ok
  obtain ⟨ny, hgy⟩ := own_root it
  obtain ⟨h', hp, u⟩ := valDec_room (ω := ω) hg hgk hgy (Nat.ne_of_lt (by omega)) (Nat.ne_of_lt (by omega)) (Nat.ne_of_lt (by omega)) (by omega)
  exact ⟨h', hp, u, upd_ownPairs_val u op ok it⟩

include hf in
theorem append_mapD (hst : c.stack = ⟨.mapD al kvs none, sub⟩ :: ps) (hhst : hc.stack = ⟨lo', sub, none⟩ :: hs)
    (hg : hc.h.get lo' = some ⟨.map true prs al, 1⟩) (op : OwnPairs kvs hc.h prs (lo' + 1) lo) (hev : ¬ sub % 2 = 1) :
    Post N h0 (Model.append (orc ω h0.reqs) (fuel + 1) t c) (append ω (fuel + 1) y hc) := by
  cases c; cases hc; cases hst; cases hhst
  have hlen := ownPairs_length op
  have hlo : lo' < lo := ownPairs_le op
  obtain ⟨hy, ny, hgy⟩ := m.cell
  simp only [Model.append, append, hg, hev, if_false, ge_iff_le] at hf ⊢
  by_cases hfull : al ≤ kvs.length
  · simp only [hfull, if_true]
    rw [keyDec_full_def hg (by omega)]
    exact failed_release m (Req.refl _)
  · obtain ⟨h', hp, u⟩ := keyDec_room (ω := ω) hg hgy (by omega : prs.length < al)
    simp only [hfull, if_false, hp] at hf ⊢
    by_cases hs0 : sub = 0
    · simp [hs0] at hf
    · simp only [hs0, if_false] at hf ⊢
      by_cases hz : sub - 1 = 0
      · simp [hz] at hf
      · simp only [hz, if_false, if_true]
        exact m.stay so u (.mapDk u.cell (upd_ownPairs u op) (by rw [u.len]; exact upd_own u hlo m.item) (even_pred sub hev hs0) (by omega))

include ih hf in
theorem append_mapDk (hst : c.stack = ⟨.mapD al kvs (some kk), sub⟩ :: ps) (hhst : hc.stack = ⟨lo', sub, some kr⟩ :: hs)
    (hg : hc.h.get lo' = some ⟨.map true prs al, 1⟩) (op : OwnPairs kvs hc.h prs (lo' + 1) mid) (ok : Own kk hc.h kr mid lo)
    (hodd : sub % 2 = 1) (room : kvs.length < al) :
    Post N h0 (Model.append (orc ω h0.reqs) (fuel + 1) t c) (append ω (fuel + 1) y hc) := by
  cases c; cases hc; cases hst; cases hhst
  obtain ⟨h', hp, u, op'⟩ := valDec_own (ω := ω) hg op ok m.item room
  simp only [Model.append, append, hg, hodd, if_true, hp] at hf ⊢
  by_cases hs0 : sub = 0
  · simp [hs0] at hf
  · simp only [hs0, if_false] at hf ⊢
    have fo' := FrameOwn.mapD (sub := sub - 1) u.cell op' (odd_pred sub hodd)
    by_cases hz : sub - 1 = 0
    · simp only [hz, if_true] at hf ⊢
      exact ih _ _ _ _ _ (m.pop so u (fo'.done rfl (fun _ e => nomatch e))) hf
    · simp only [hz, if_false]
      exact m.stay so u fo'

theorem append_mapI (hst : c.stack = ⟨.mapI al kvs none, 0⟩ :: ps) (hhst : hc.stack = ⟨lo', 0, none⟩ :: hs)
    (hg : hc.h.get lo' = some ⟨.map false prs al, 1⟩) (op : OwnPairs kvs hc.h prs (lo' + 1) lo) (hcap : kvs.length ≤ al) :
    Post N h0 (Model.append (orc ω h0.reqs) (fuel + 1) t c) (append ω (fuel + 1) y hc) := by
  cases c; cases hc; cases hst; cases hhst
  have hlen := ownPairs_length op
  have hlo : lo' < lo := ownPairs_le op
  obtain ⟨hy, ny, hgy⟩ := m.cell
  have hkey : ∀ {h' : H} {cell : Cell} {k al' : Nat}, Upd _ h' lo' cell k → h'.get lo' = some ⟨.map false prs al', 1⟩ →
      kvs.length < al' → FrameOwn h' ⟨.mapI al' kvs (some t), 1⟩ ⟨lo', 1, some y⟩ lo' h'.cells.length :=
    fun u hg' hr => .mapIk hg' (upd_ownPairs u op) (by rw [u.len]; exact upd_own u hlo m.item) hr
  simp only [Model.append, append, hg, ge_iff_le, show ¬ (0 : UInt64) % 2 = 1 by decide, if_false,
    show (0 : UInt64) ^^^ 1 = 1 by decide]
  by_cases hfull : al ≤ kvs.length
  · simp only [hfull, if_true]
    obtain ⟨ok, k, hm, hgr⟩ := grow_sim ω h0.reqs _ _ Model.szPair al m.base.reqs
    simp only [hm]
    cases ok with
    | false =>
      simp only [Bool.false_eq_true, if_false] at hgr ⊢
      rw [keyDec_grow_fail hg (by omega) hgr]
      exact failed_release m (req_mk _ k)
    | true =>
      simp only [if_true] at hgr ⊢
      obtain ⟨h', hp, u⟩ := keyDec_grow_ok hg hgy (Nat.ne_of_lt (by omega)) (by omega) hgr (req_mk _ k)
      simp only [hp, Bool.false_eq_true, if_false]
      exact m.stay so u (hkey u u.cell (by simp only [Model.grow, Model.growth]; split <;> omega))
  · simp only [hfull, if_false]
    obtain ⟨h', hp, u⟩ := keyDec_room (ω := ω) hg hgy (by omega : prs.length < al)
    simp only [hp, Bool.false_eq_true, if_false]
    exact m.stay so u (hkey u u.cell (by omega))

theorem append_mapIk (hst : c.stack = ⟨.mapI al kvs (some kk), 1⟩ :: ps) (hhst : hc.stack = ⟨lo', 1, some kr⟩ :: hs)
    (hg : hc.h.get lo' = some ⟨.map false prs al, 1⟩) (op : OwnPairs kvs hc.h prs (lo' + 1) mid) (ok : Own kk hc.h kr mid lo)
    (room : kvs.length < al) : Post N h0 (Model.append (orc ω h0.reqs) (fuel + 1) t c) (append ω (fuel + 1) y hc) := by
  cases c; cases hc; cases hst; cases hhst
  obtain ⟨h', hp, u, op'⟩ := valDec_own (ω := ω) hg op ok m.item room
  simp only [Model.append, append, hg, show (1 : UInt64) % 2 = 1 by decide, if_true, show (1 : UInt64) ^^^ 1 = 0 by decide, hp,
    Bool.false_eq_true, if_false]
  exact m.stay so u (.mapI u.cell op' (by simp; omega))

include ih hf in
theorem append_tag {n : Nat} (hst : c.stack = ⟨.tag n none, sub⟩ :: ps) (hhst : hc.stack = ⟨lo', sub, none⟩ :: hs)
    (hg : hc.h.get lo' = some ⟨.tag n none, 1⟩) (e : lo = lo' + 1) :
    Post N h0 (Model.append (orc ω h0.reqs) (fuel + 1) t c) (append ω (fuel + 1) y hc) := by
  cases c; cases hc; cases hst; cases hhst
  subst e
  obtain ⟨hy, ny, hgy⟩ := m.cell
  simp only [Model.append, append, hg, ne_eq] at hf ⊢
  by_cases hs1 : sub = 1
  · simp only [hs1, not_true_eq_false, if_false] at hf ⊢
    have u := tagSet_dec hg hgy (Nat.ne_of_lt (by omega))
    refine ih _ _ _ _ _ (m.pop so u ⟨y, lo' + 1, _, u.cell, Around.first _ _, ?_⟩) hf
    rw [u.len]; exact upd_own u (Nat.lt_succ_self _) m.item
  · simp [hs1] at hf

omit so in
theorem append_strI {tt : Bool} {cap : Nat} {cs : List (List UInt8)} (hst : c.stack = ⟨strPI tt cap cs, sub⟩ :: ps)
    (hhst : hc.stack = ⟨lo', sub, none⟩ :: hs) (hg : hc.h.get lo' = some ⟨.strI tt rs cap, 1⟩) :
    Post N h0 (Model.append (orc ω h0.reqs) (fuel + 1) t c) (append ω (fuel + 1) y hc) := by
  have e : Model.append (orc ω h0.reqs) (fuel + 1) t c = { c with syntaxError := true } := by
    rw [Model.append_cons _ _ _ hst]; cases tt <;> rfl
  rw [e]
  cases hc; cases hhst
  simp only [append, hg]
  exact failed_release_syntax m

end

/-- `_cbor_builder_append`: the two models take the same branch at every level of the cascade -/
theorem append_sim (ω : Oracle) (N : Nat) (h0 : H) : ∀ (fuel : Nat) (t : Item) (y : Ref) (c : Model.Ctx) (hc : Ctx) (lo : Nat),
    Mid N h0 c hc lo t y → (Model.append (orc ω h0.reqs) fuel t c).fault = false →
    Post N h0 (Model.append (orc ω h0.reqs) fuel t c) (append ω fuel y hc)
  | 0, _, _, _, _, _, _, hf => by simp [Model.append] at hf
  | fuel+1, t, y, c, hc, lo, m, hf => by
    have mown := m.own
    generalize hst : c.stack = ps, hhst : hc.stack = hs at mown
    have ih := append_sim ω N h0 fuel
    cases mown with
    | nil =>
      rw [Model.append_nil _ _ _ hst]
      simp only [append, hhst]
      exact Or.inr (Or.inl ⟨⟨m.base.cf, m.base.se, m.base.reqs, m.base.keeps⟩, m.cf, m.se, hst, rfl, t, y, rfl, rfl, m.item⟩)
    | cons fo so =>
      cases fo with
      | arrD hg ol => exact append_arrD m so ih hf hst hhst hg ol
      | arrI hg ol => exact append_arrI m so hst hhst hg ol
      | mapD hg op hev => exact append_mapD m so hf hst hhst hg op hev
      | mapDk hg op ok hodd room => exact append_mapDk m so ih hf hst hhst hg op ok hodd room
      | mapI hg op cap => exact append_mapI m so hst hhst hg op cap
      | mapIk hg op ok room => exact append_mapIk m so hst hhst hg op ok room
      | tag hg e => exact append_tag m so ih hf hst hhst hg e
      | strI hg _ => exact append_strI m hst hhst hg

/-- the callbacks that differ in constants only, as instances of one definition each (cf. `Model.startPush`, `Model.defStart`) -/
def startPush (ω : Oracle) (L : Nat) (c : Ctx) (n : Node) (sub : UInt64) : Ctx :=
  match Heap.new1 ω c.h n with
  | (some r, h) => pushFrame ω L { c with h := h } r sub
  | (none, h) => { c with h := h, creationFailed := true }

theorem tagCb_eq (ω : Oracle) (L : Nat) (c : Ctx) (v : UInt64) : tagCb ω L c v = startPush ω L c (.tag v.toNat none) 1 := rfl
theorem indefContainer_eq (ω : Oracle) (L : Nat) (c : Ctx) (n : Node) : indefContainer ω L c n = startPush ω L c n 0 := rfl

def defStart (ω : Oracle) (L : Nat) (c : Ctx) (elt : Nat) (n : UInt64) (nd : Node) (sub : UInt64) : Ctx :=
  match Heap.newMulti ω c.h elt n.toNat nd with
  | (some r, h) =>
    let c := { c with h := h }
    if n > 0 then pushFrame ω L c r sub else append ω (fuelOf c) r c
  | (none, h) => { c with h := h, creationFailed := true }

theorem arrayStart_eq (ω : Oracle) (L : Nat) (c : Ctx) (n : UInt64) : arrayStart ω L c n = defStart ω L c 8 n (.arr true [] n.toNat) n := rfl
theorem mapStart_eq (ω : Oracle) (L : Nat) (c : Ctx) (n : UInt64) : mapStart ω L c n = defStart ω L c 16 n (.map true [] n.toNat) (n * 2) := rfl

theorem live_new (g : Good N h0 c hc) {h1 : H} {k : Nat} (q : Req hc.h h1 k) (n : Node) :
    Live N h0 (c.asked k) { hc with h := (h1.new n).2 } hc.h.cells.length ∧ (h1.new n).1 = hc.h.cells.length ∧
    (h1.new n).2.cells.length = hc.h.cells.length + 1 ∧ (h1.new n).2.get hc.h.cells.length = some ⟨n, 1⟩ := by
  have hl : h1.cells.length = hc.h.cells.length := by rw [q.cells]
  have kn : Keeps hc.h.cells.length hc.h (h1.new n).2 := (q.keeps _).trans (by rw [← hl]; exact Keeps.snoc rfl rfl)
  refine ⟨⟨g.base.step (kn.mono (stackOwn_le g.own)) q.reqs rfl g.base.cf g.base.se, g.cf, g.se, g.root,
    stackOwn_congr (fun r _ hr => kn.old r hr) g.own⟩, by rw [← hl]; rfl, by rw [← hl]; exact new_len h1 n, by rw [← hl]; exact get_new_same h1 n⟩

theorem start_append (ω : Oracle) (g : Good N h0 c hc) {h1 : H} {k : Nat} (q : Req hc.h h1 k)
    (n : Node) (t : Item) (leaf : ∀ (h : H) (y : Nat), h.get y = some ⟨n, 1⟩ → Own t h y y (y + 1))
    (hf : (Model.append (orc ω h0.reqs) (Model.fuelOf c) t (c.asked k)).fault = false) :
    Post N h0 (Model.append (orc ω h0.reqs) (Model.fuelOf c) t (c.asked k))
      (append ω (fuelOf hc) (h1.new n).1 { hc with h := (h1.new n).2 }) := by
  obtain ⟨l, e1, e2, e3⟩ := live_new g q n
  rw [e1, fuelOf, stackOwn_length g.own]
  exact append_sim ω N h0 _ t _ _ _ _ ⟨l, by rw [e2]; exact leaf _ _ e3⟩ hf

/-- a new container is pushed on the stack (`PUSH_CTX_STACK`), or released when the stack cannot take it -/
theorem start_push (ω : Oracle) (L : Nat) (g : Good N h0 c hc) {h1 : H} {k : Nat}
    (q : Req hc.h h1 k) (n : Node) (pit : Model.PItem) (sub : UInt64)
    (hfo : ∀ (h : H) (lo : Nat), h.get lo = some ⟨n, 1⟩ → FrameOwn h ⟨pit, sub⟩ ⟨lo, sub, none⟩ lo (lo + 1)) :
    Post N h0 (Model.pushFrame (orc ω h0.reqs) L (c.asked k) pit sub)
      (pushFrame ω L { hc with h := (h1.new n).2 } (h1.new n).1 sub) := by
  obtain ⟨l, e1, e2, e3⟩ := live_new g q n
  have fo : FrameOwn (h1.new n).2 ⟨pit, sub⟩ ⟨hc.h.cells.length, sub, none⟩ hc.h.cells.length (h1.new n).2.cells.length := by
    rw [e2]; exact hfo _ _ e3
  have hlt := frameOwn_lt fo
  have hreq : (h1.new n).2.reqs = h0.reqs + (c.reqs + k) := l.base.reqs
  rw [Model.pushFrame_eq, e1]
  simp only [pushFrame, H.req, orc_apply, stackOwn_length g.own, Model.Ctx.asked, ← hreq]
  -- the release of the container, for the two refusals
  have rel : ∀ {h2 : H} {j : Nat}, Req (h1.new n).2 h2 j →
      Post N h0 ((c.asked k).refused j) { hc with h := h2.decref hc.h.cells.length, creationFailed := true } := fun {h2 j} q2 => by
    have hl2 : h2.cells.length = (h1.new n).2.cells.length := by rw [q2.cells]
    have f := frame_release (frameOwn_congr (fun r _ _ => q2.get r) fo) (Nat.le_of_eq hl2.symm)
    rw [← hl2] at f
    exact failed_freed l q2 f (by rw [hl2]; exact Nat.le_of_lt hlt) rfl rfl rfl rfl l.base.se (Or.inl rfl)
  by_cases hL : c.stack.length = L
  · simp only [hL, if_true]
    exact rel (Req.refl _)
  · simp only [hL, if_false]
    by_cases hω : ω (h1.new n).2.reqs = true
    · simp only [hω, if_true]
      have q2 := req_mk (h1.new n).2 1
      exact Or.inl ⟨l.base.step (q2.keeps N) q2.reqs rfl l.base.cf l.base.se, l.cf, l.se, l.root,
        .cons (frameOwn_congr (fun r _ _ => q2.get r) fo) (stackOwn_congr (fun r _ _ => q2.get r) l.own)⟩
    · simp only [hω]
      exact rel (req_mk _ 1)

theorem scalar_sim (ω : Oracle) (g : Good N h0 c hc) (extra : Nat) (t : Item) (n : Node)
    (leaf : ∀ (h : H) (y : Nat), h.get y = some ⟨n, 1⟩ → Own t h y y (y + 1))
    (hf : (Model.scalar (orc ω h0.reqs) c extra t).fault = false) :
    Post N h0 (Model.scalar (orc ω h0.reqs) c extra t) (scalar ω hc n) := by
  rw [Model.scalar_eq] at hf ⊢
  simp only [scalar, new1, H.req, orc_apply, ← g.base.reqs] at hf ⊢
  by_cases hω : ω hc.h.reqs = true
  · simp only [hω, if_true] at hf ⊢
    exact start_append ω g (req_mk hc.h 1) n t leaf hf
  · simp only [hω]
    exact failed_req g (req_mk hc.h 1)

/-- tags and indefinite arrays / maps -/
theorem startPush_sim (ω : Oracle) (L : Nat) (g : Good N h0 c hc)
    (pit : Model.PItem) (n : Node) (sub : UInt64)
    (hfo : ∀ (h : H) (lo : Nat), h.get lo = some ⟨n, 1⟩ → FrameOwn h ⟨pit, sub⟩ ⟨lo, sub, none⟩ lo (lo + 1)) :
    Post N h0 (Model.startPush (orc ω h0.reqs) L c pit sub) (startPush ω L hc n sub) := by
  rw [Model.startPush_eq]
  simp only [startPush, new1, H.req, orc_apply, ← g.base.reqs]
  by_cases hω : ω hc.h.reqs = true
  · simp only [hω, if_true]
    exact start_push ω L g (req_mk hc.h 1) n pit sub hfo
  · simp only [hω]
    exact failed_req g (req_mk hc.h 1)

theorem indefString_sim (ω : Oracle) (L : Nat) (g : Good N h0 c hc) (isText : Bool) :
    Post N h0 (Model.indefString (orc ω h0.reqs) L c isText) (indefString ω L hc isText) := by
  rw [Model.indefString_eq]
  simp only [indefString, new2, H.req, orc_apply, ← Nat.add_assoc, ← g.base.reqs]
  rcases Bool.eq_false_or_eq_true (ω hc.h.reqs) with hω | hω
  · rcases Bool.eq_false_or_eq_true (ω (hc.h.reqs + 1)) with hω2 | hω2
    · simp only [hω, hω2, if_true, Bool.not_true, Bool.false_eq_true, if_false]
      exact start_push ω L g (req_mk hc.h 2) (.strI isText [] 0) _ 0 (fun h lo hg => .strI hg (by simp only [OwnChunks]))
    · simp only [hω, hω2, if_true, Bool.not_true, Bool.false_eq_true, if_false]
      exact failed_req g (req_mk hc.h 2)
  · simp only [hω, Bool.false_eq_true, if_false, Bool.not_false, if_true]
    exact failed_req g (req_mk hc.h 1)

theorem defStart_sim (ω : Oracle) (L : Nat) (g : Good N h0 c hc) (elt : Nat) (n : UInt64)
    (nd : Node) (pit : Model.PItem) (sub : UInt64) (ht : ∀ n, pit ≠ .tag n none)
    (hfo : ∀ (h : H) (lo : Nat), h.get lo = some ⟨nd, 1⟩ → FrameOwn h ⟨pit, sub⟩ ⟨lo, sub, none⟩ lo (lo + 1))
    (hf : (Model.defStart (orc ω h0.reqs) L c elt n pit sub pit.finish).fault = false) :
    Post N h0 (Model.defStart (orc ω h0.reqs) L c elt n pit sub pit.finish) (defStart ω L hc elt n nd sub) := by
  rw [Model.defStart_eq] at hf ⊢
  simp only [defStart, newMulti, mulOk, H.req, orc_apply, ← Nat.add_assoc, ← g.base.reqs] at hf ⊢
  rcases Bool.eq_false_or_eq_true (ω hc.h.reqs) with hω | hω
  · rcases Bool.eq_false_or_eq_true (Gen._cbor_safe_to_multiply (UInt64.ofNat elt) (UInt64.ofNat n.toNat)) with hm | hm
    · rcases Bool.eq_false_or_eq_true (ω (hc.h.reqs + 1)) with hω2 | hω2
      · simp only [hω, hm, hω2, if_true, Bool.not_true, Bool.false_eq_true, if_false] at hf ⊢
        by_cases hn : n > 0
        · simp only [hn, if_true]
          exact start_push ω L g (req_mk hc.h 2) nd pit sub hfo
        · simp only [hn, if_false] at hf ⊢
          exact start_append ω g (req_mk hc.h 2) nd _ (fun h y hg => (hfo h y hg).done rfl ht) hf
      · simp only [hω, hm, hω2, if_true, Bool.not_true, Bool.false_eq_true, if_false]
        exact failed_req g (req_mk hc.h 2)
    · simp only [hω, hm, if_true, Bool.not_true, Bool.false_eq_true, if_false, Bool.not_false]
      exact failed_req g (req_mk hc.h 1)
  · simp only [hω, Bool.false_eq_true, if_false, Bool.not_false, if_true]
    exact failed_req g (req_mk hc.h 1)

theorem breakCb_sim (ω : Oracle) (g : Good N h0 c hc)
    (hf : (Model.breakCb (orc ω h0.reqs) c).fault = false) :
    Post N h0 (Model.breakCb (orc ω h0.reqs) c) (breakCb ω hc) := by
  obtain ⟨stack, root, cf, se, reqs, fault⟩ := c
  obtain ⟨h, hstack, hrt, hcf, hse⟩ := hc
  obtain ⟨rfl, rfl, rfl⟩ : cf = false ∧ se = false ∧ root = none := ⟨g.cf, g.se, g.root⟩
  have mb := g.base
  have mown := g.own
  simp only at mown
  cases mown with
  | nil => exact failed_syntax g
  | @cons pf fr ps hs lo' _ fo so =>
    have hlen := stackOwn_length so
    -- the frame is closed as it stands and delivered one level down
    have close : fr.key = none → (∀ n, pf.item ≠ .tag n none) →
        (Model.append (orc ω h0.reqs) (ps.length + 1 + 1) pf.item.finish ⟨ps, none, false, false, reqs, fault⟩).fault = false →
        Post N h0 (Model.append (orc ω h0.reqs) (ps.length + 1 + 1) pf.item.finish ⟨ps, none, false, false, reqs, fault⟩)
          (append ω (ps.length + 1 + 1) fr.item ⟨h, hs, hrt, hcf, hse⟩) :=
      fun hk ht hf' => by
        rw [(fo.finish ht).1]
        exact append_sim ω N h0 _ _ _ _ _ lo' ⟨⟨⟨mb.cf, mb.se, mb.reqs, mb.keeps⟩, rfl, rfl, rfl, so⟩, fo.done hk ht⟩ hf'
    simp only [Model.breakCb, breakCb, Model.fuelOf, fuelOf, List.length_cons, hlen] at hf ⊢
    cases fo with
    | arrD hg _ | mapD hg _ _ | mapDk hg _ _ _ _ | tag hg _ =>
      simp only [isIndefinite, isMap, hg, Bool.not_true, Bool.false_and, Bool.false_eq_true, if_false]
      exact failed_syntax g
    | arrI hg ol =>
      simp only [isIndefinite, isMap, hg, Bool.not_false, Bool.true_and, Bool.true_or, if_true] at hf ⊢
      exact close rfl (fun _ e => nomatch e) hf
    | @strI _ _ _ tt _ _ _ hg oc =>
      cases tt <;>
        simp only [strPI, Bool.false_eq_true, if_false, if_true, isIndefinite, isMap, hg, Bool.not_false, Bool.true_and, Bool.true_or] at hf ⊢ <;>
        exact close rfl (fun _ e => nomatch e) hf
    | mapI hg op cap =>
      simp only [isIndefinite, isMap, hg, Bool.not_false, Bool.not_true, Bool.true_and, Bool.false_or,
        show (0 : UInt64) % 2 = 0 by decide, decide_true, if_true] at hf ⊢
      exact close rfl (fun _ e => nomatch e) hf
    | mapIk hg _ _ _ =>
      simp only [isIndefinite, isMap, hg, Bool.not_false, Bool.not_true, Bool.true_and, Bool.false_or,
        show ¬ (1 : UInt64) % 2 = 0 by decide, decide_false, Bool.false_eq_true, if_false]
      exact failed_syntax g

/-- `own_str` with the `if` outside the constructor application, as `Model.stringCb` has it -/
theorem leaf_str (isText : Bool) (data : List UInt8) (h : H) (y : Nat) (hg : h.get y = some ⟨.str isText data, 1⟩) :
    Own (if isText = true then Item.text data else Item.bytes data) h y y (y + 1) := by
  cases isText <;> exact ⟨rfl, rfl, hg⟩

/-- definite strings: a chunk for the indefinite string of the same kind on top of the stack, an item like any other elsewhere -/
theorem stringCb_sim (ω : Oracle) (g : Good N h0 c hc) (isText : Bool) (data : List UInt8)
    (hf : (Model.stringCb (orc ω h0.reqs) c isText data).fault = false) :
    Post N h0 (Model.stringCb (orc ω h0.reqs) c isText data) (stringCb ω hc isText data) := by
  obtain ⟨stack, root, cf, se, reqs, fault⟩ := c
  obtain ⟨h, hstack, hrt, hcf, hse⟩ := hc
  have hreq : h.reqs = h0.reqs + reqs := g.base.reqs
  rw [Model.stringCb_eq] at hf ⊢
  simp only [stringCb, H.req, orc_apply, ← Nat.add_assoc, ← hreq] at hf ⊢
  rcases Bool.eq_false_or_eq_true (ω h.reqs) with hω | hω
  · rcases Bool.eq_false_or_eq_true (ω (h.reqs + 1)) with hω2 | hω2
    · simp only [hω, hω2, if_true, Bool.not_true, Bool.false_eq_true, if_false] at hf ⊢
      have q : Req h ⟨h.cells, h.reqs + 1 + 1, h.fault⟩ 2 := ⟨rfl, rfl, rfl⟩
      obtain ⟨l, e1, e2, e3⟩ := live_new g q (.str isText data)
      have happ := start_append ω g q (.str isText data) _ (leaf_str isText data)
      simp only [Model.Ctx.asked, e1] at l e2 e3 happ ⊢
      generalize (H.new ⟨h.cells, h.reqs + 1 + 1, h.fault⟩ (.str isText data)).2 = H' at l e2 e3 happ ⊢
      have m : Mid N h0 ⟨stack, root, cf, se, reqs + 2, fault⟩ ⟨H', hstack, hrt, hcf, hse⟩ h.cells.length
          (if isText = true then Item.text data else Item.bytes data) h.cells.length :=
        ⟨l, by rw [e2]; exact leaf_str isText data _ _ e3⟩
      have mown := l.own
      simp only at mown
      cases mown with
      | nil => simp only [Model.stringTail] at hf ⊢; exact happ hf
      | @cons pf fr ps hs lo' _ fo so =>
        have hlt := frameOwn_lt fo
        have hne : lo' ≠ h.cells.length := by omega
        cases fo with
        | arrD hg _ | arrI hg _ | mapD hg _ _ | mapDk hg _ _ _ _ | mapI hg _ _ | mapIk hg _ _ _ | tag hg _ =>
          simp only [Model.stringTail, hg] at hf ⊢
          exact happ hf
        | @strI _ _ cap tt rs cs sub hg oc =>
          by_cases ht : tt = isText
          · subst ht
            rw [Model.stringTail_chunk _ rfl] at hf ⊢
            simp only [hg, if_true]
            have hlen := ownChunks_length oc
            by_cases hfull : cs.length = cap
            · simp only [hfull, if_true, Model.Ctx.grown] at hf ⊢
              obtain ⟨ok, k, hm, hgr⟩ := grow_sim ω h0.reqs H'
                ⟨⟨strPI tt cap cs, sub⟩ :: ps, root, cf, se, reqs + 2, fault⟩ Model.szPtr cap l.base.reqs
              simp only [hm] at hf ⊢
              cases ok with
              | false =>
                simp only [Bool.false_eq_true, if_false] at hgr ⊢
                rw [chunkDec_grow_fail hg e3 (by omega) hgr]
                exact failed_release m (req_mk H' k)
              | true =>
                simp only [if_true] at hgr ⊢
                obtain ⟨h', hp, u⟩ := chunkDec_grow_ok hg e3 hne (by omega) hgr (req_mk H' k)
                simp only [hp]
                exact m.stay so u (.strI u.cell (upd_ownChunks u oc e3 e2))
            · simp only [hfull, if_false]
              obtain ⟨h', hp, u⟩ := chunkDec_room (ω := ω) hg e3 hne (by omega)
              simp only [hp]
              exact m.stay so u (.strI u.cell (upd_ownChunks u oc e3 e2))
          · rw [Model.stringTail_other _ (fun _ _ _ _ e => ht (Model.strPI_kind (Model.Frame.mk.inj (List.cons.inj e).1).1))] at hf ⊢
            simp only [hg, ht, if_false]
            exact happ hf
    · simp only [hω, hω2, if_true, Bool.not_true, Bool.false_eq_true, if_false, Bool.not_false]
      exact failed_req g (req_mk h 2)
  · simp only [hω, Bool.false_eq_true, if_false, Bool.not_false, if_true]
    exact failed_req g (req_mk h 1)

theorem callback_sim (ω : Oracle) (L : Nat) (src : Array UInt8) (g : Good N h0 c hc)
    (e : Gen.Event) (hf : (Model.callback (orc ω h0.reqs) L src c e).fault = false) :
    Post N h0 (Model.callback (orc ω h0.reqs) L src c e) (callback ω L src hc e) := by
  cases e <;> simp only [Model.callback, callback] at hf ⊢
  case byte_string off len | string off len =>
    by_cases hb : off + len.toNat ≤ src.size
    · simp only [hb, if_true] at hf ⊢; exact stringCb_sim ω g _ _ hf
    · simp [hb] at hf
  case byte_string_start | string_start => exact indefString_sim ω L g _
  case array_start n =>
    rw [Model.arrayStart_eq] at hf ⊢
    exact defStart_sim ω L g _ n _ _ _ (fun _ e => nomatch e) (fun h lo hg => .arrD hg (by simp only [OwnList])) hf
  case map_start n =>
    rw [Model.mapStart_eq] at hf ⊢
    exact defStart_sim ω L g _ n _ _ _ (fun _ e => nomatch e) (fun h lo hg => .mapD hg (by simp only [OwnPairs]) (even_double n)) hf
  case indef_array_start =>
    rw [Model.indefContainer_eq]
    exact startPush_sim ω L g _ _ 0 (fun h lo hg => .arrI hg (by simp only [OwnList]))
  case indef_map_start =>
    rw [Model.indefContainer_eq]
    exact startPush_sim ω L g _ _ 0 (fun h lo hg => .mapI hg (by simp only [OwnPairs]) (Nat.le_refl _))
  case tag v =>
    rw [Model.tagCb_eq]
    exact startPush_sim ω L g _ _ 1 (fun h lo hg => .tag hg rfl)
  case indef_break => exact breakCb_sim ω g hf
  all_goals exact scalar_sim ω g _ _ _ (fun h y hg => ⟨rfl, rfl, hg⟩) hf

/-- what `hload_refines` says about a pair of results (`N` = number of cells before the load) -/
def Refines (N : Nat) (h0 : H) (o : Model.LoadOut) (r : Option Ref × Model.LoadResult × H) : Prop :=
  r.2.1 = o.result ∧ r.2.2.reqs = h0.reqs + o.reqs ∧ r.2.2.fault = h0.fault ∧
  (∀ x, x < N → r.2.2.get x = h0.get x) ∧
  match o.item with
  | some t => ∃ y, r.1 = some y ∧ Own t r.2.2 y N r.2.2.cells.length
  | none => r.1 = none ∧ ∀ x, N ≤ x → r.2.2.get x = none

theorem Refines.result {N : Nat} {h0 : H} {o : Model.LoadOut} {r : Option Ref × Model.LoadResult × H} (p : Refines N h0 o r) :
    r.2.1 = o.result := p.1
theorem Refines.reqs {N : Nat} {h0 : H} {o : Model.LoadOut} {r : Option Ref × Model.LoadResult × H} (p : Refines N h0 o r) :
    r.2.2.reqs = h0.reqs + o.reqs := p.2.1
theorem Refines.fault {N : Nat} {h0 : H} {o : Model.LoadOut} {r : Option Ref × Model.LoadResult × H} (p : Refines N h0 o r) :
    r.2.2.fault = h0.fault := p.2.2.1
theorem Refines.old {N : Nat} {h0 : H} {o : Model.LoadOut} {r : Option Ref × Model.LoadResult × H} (p : Refines N h0 o r) :
    ∀ x, x < N → r.2.2.get x = h0.get x := p.2.2.2.1
theorem Refines.granted {N : Nat} {h0 : H} {o : Model.LoadOut} {r : Option Ref × Model.LoadResult × H} {t : Item}
    (p : Refines N h0 o r) (ht : o.item = some t) : ∃ y, r.1 = some y ∧ Own t r.2.2 y N r.2.2.cells.length := by
  have := p.2.2.2.2; rw [ht] at this; exact this
theorem Refines.refused {N : Nat} {h0 : H} {o : Model.LoadOut} {r : Option Ref × Model.LoadResult × H}
    (p : Refines N h0 o r) (ht : o.item = none) : r.1 = none ∧ ∀ x, N ≤ x → r.2.2.get x = none := by
  have := p.2.2.2.2; rw [ht] at this; exact this

/-- the `error:` exit: the clean-up loop leaves no cell of this load behind -/
theorem cleanup_refines (b : Base N h0 c hc) {hi : Nat}
    (so : StackOwn hc.h N c.stack hc.stack hi) (hle : hi ≤ hc.h.cells.length) (dead : ∀ x, hi ≤ x → hc.h.get x = none)
    (res : Model.LoadResult) (flt : Bool) :
    Refines N h0 ⟨none, res, c.reqs, flt⟩ (none, res, cleanup hc.h hc.stack) := by
  have f := cleanup_freed _ so hle
  have k := b.keeps.trans (f.keeps (Nat.le_refl N))
  exact ⟨rfl, f.reqs.trans b.reqs, k.fault, k.old, rfl, f.dead dead⟩

theorem Post.base (p : Post N h0 c hc) : Base N h0 c hc := by
  rcases p with g | d | f
  · exact g.base
  · exact d.base
  · exact f.base

theorem post_error (p : Post N h0 c hc) (hnd : ¬ Done N h0 c hc)
    (res : Model.LoadResult) (flt : Bool) :
    Refines N h0 ⟨none, res, c.reqs, flt⟩ (none, res, cleanup hc.h hc.stack) := by
  rcases p with g | d | f
  · exact cleanup_refines g.base g.own (Nat.le_refl _) (fun x hx => get_none_of_ge _ x hx) res flt
  · exact absurd d hnd
  · obtain ⟨hi, so, hle, dead⟩ := f.own
    exact cleanup_refines f.base so hle dead res flt

theorem good_not_done (g : Good N h0 c hc) : ¬ Done N h0 c hc := by
  intro d
  obtain ⟨t, y, h1, _⟩ := d.own
  rw [g.root] at h1; cases h1

/-- the loop of `cbor_load`, from any state between two heads -/
theorem loop_refines (ω : Oracle) (L : Nat) (src : Array UInt8) (N : Nat) (h0 : H) :
    ∀ (fuel : Nat) (c : Model.Ctx) (hc : Ctx) (read : Nat), Good N h0 c hc →
      (Model.loadLoop (orc ω h0.reqs) L src fuel c read).fault = false →
      Refines N h0 (Model.loadLoop (orc ω h0.reqs) L src fuel c read) (loadLoop ω L src fuel hc read)
  | 0, c, hc, read, g, hf => by simp [Model.loadLoop] at hf
  | fuel+1, c, hc, read, g, hf => by
    by_cases hmore : src.size > read
    · have hcf := Lemmas.Sticky.loadLoop_fold_fault _ L src fuel c read hmore hf
      unfold Model.loadLoop at hf ⊢
      unfold loadLoop
      simp only [hmore, if_true] at hf ⊢
      have hev := Lemmas.sd_events src read (UInt64.ofNat (src.size - read))
      generalize Gen.cbor_stream_decode src read (UInt64.ofNat (src.size - read)) = d at hcf hf hev ⊢
      obtain ⟨res, evs⟩ := d
      simp only at hcf hf hev ⊢
      have hp : Post N h0 (evs.foldl (Model.callback (orc ω h0.reqs) L src) c) (evs.foldl (callback ω L src) hc) ∧
          (¬ res.status = Gen.CBOR_DECODER_FINISHED →
            ¬ Done N h0 (evs.foldl (Model.callback (orc ω h0.reqs) L src) c) (evs.foldl (callback ω L src) hc)) := by
        rcases hev with rfl | ⟨e, rfl, hst⟩
        · exact ⟨Or.inl g, fun _ => good_not_done g⟩
        · exact ⟨callback_sim ω L src g e hcf, fun h => absurd hst h⟩
      obtain ⟨p, hnd⟩ := hp
      generalize evs.foldl (Model.callback (orc ω h0.reqs) L src) c = c' at hcf hf p hnd ⊢
      generalize evs.foldl (callback ω L src) hc = hc' at p hnd ⊢
      have b := p.base
      by_cases hfin : res.status = Gen.CBOR_DECODER_FINISHED
      · simp only [hfin, if_true] at hf ⊢
        rw [b.cf, b.se]
        by_cases h1 : c'.creationFailed = true
        · simp only [h1, if_true]
          exact post_error p (fun d => by rw [d.cf] at h1; cases h1) _ _
        · simp only [h1] at hf ⊢
          by_cases h2 : c'.syntaxError = true
          · simp only [h2, if_true]
            exact post_error p (fun d => by rw [d.se] at h2; cases h2) _ _
          · simp only [h2] at hf ⊢
            rcases p with g' | d | f
            · rw [stackOwn_length g'.own]
              by_cases h3 : c'.stack.length > 0
              · simp only [h3, if_true] at hf ⊢
                exact loop_refines ω L src N h0 fuel c' hc' _ g' hf
              · simp only [h3, if_false, g'.root] at hf
                simp at hf
            · obtain ⟨t, y, r1, r2, ho⟩ := d.own
              simp only [d.st, d.hst, List.length_nil, Nat.lt_irrefl, gt_iff_lt, if_false, r1, r2]
              exact ⟨rfl, b.reqs, b.keeps.fault, b.keeps.old, y, rfl, ho⟩
            · rcases f.flag with e | e
              · exact absurd e h1
              · exact absurd e h2
      · simp only [hfin, if_false]
        split
        · exact post_error p (hnd hfin) _ _
        · exact post_error p (hnd hfin) _ _
    · unfold Model.loadLoop loadLoop
      simp only [hmore, if_false]
      exact post_error (Or.inl g) (good_not_done g) _ _

/-- `HB.load` reports exactly what `Model.load` reports, makes exactly the same allocator requests, never touches a
pre-existing cell, on success hands out an exclusively owned tree (every node count 1, occupying exactly the new cells) for
exactly the tree the value-level model computes, and on every failure has released every cell it created. -/
theorem hload_refines (ω : Heap.Oracle) (L : Nat) (h : Heap.H) (r0 : Model.LoadResult) (src : Array UInt8) :
    let o := Model.load (fun i _ => ω (h.reqs + i)) L r0 src
    let r := HB.load ω L h src
    o.fault = false →
    r.2.1 = o.result ∧ r.2.2.reqs = h.reqs + o.reqs ∧ r.2.2.fault = h.fault ∧
    (∀ x, x < h.cells.length → r.2.2.get x = h.get x) ∧
    match o.item with
    | some t => ∃ y, r.1 = some y ∧ Heap.Own t r.2.2 y h.cells.length r.2.2.cells.length
    | none => r.1 = none ∧ ∀ x, h.cells.length ≤ x → r.2.2.get x = none := by
  intro o r hf
  show Refines h.cells.length h (Model.load (orc ω h.reqs) L r0 src) (load ω L h src)
  unfold Model.load load
  by_cases hz : src.size = 0
  · simp only [hz, if_true]
    exact ⟨rfl, rfl, rfl, fun _ _ => rfl, rfl, fun x hx => get_none_of_ge _ x hx⟩
  · simp only [hz, if_false]
    refine loop_refines ω L src h.cells.length h _ _ _ 0 ⟨⟨rfl, rfl, rfl, Keeps.refl _ _⟩, rfl, rfl, rfl, .nil⟩ ?_
    have : o = Model.loadLoop (orc ω h.reqs) L src (src.size + 1) {} 0 := by
      show Model.load _ L r0 src = _
      simp only [Model.load, hz, if_false]; rfl
    rw [← this]; exact hf

/-- the same for every buffer a C caller can pass (`size < SIZE_MAX`): the hypothesis on the fault flag is discharged by
`Lemmas.Safe.load_safe` -/
theorem hload_refines' (ω : Heap.Oracle) (L : Nat) (h : Heap.H) (r0 : Model.LoadResult) (src : Array UInt8)
    (hsz : src.size < 2 ^ 64 - 1) :
    Refines h.cells.length h (Model.load (fun i _ => ω (h.reqs + i)) L r0 src) (HB.load ω L h src) :=
  hload_refines ω L h r0 src (Lemmas.Safe.load_safe _ L r0 src hsz).1

end HB
