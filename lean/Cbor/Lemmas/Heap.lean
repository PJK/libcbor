import Cbor.Model.Client
import Cbor.Props.C20
/-!
Basic facts about the heap model: cell access, reference-count updates, the growth rule, an induction principle for
`decref`, and the two relations every release and every step satisfies (`Shrinks`, `Sticky`).  Then what each primitive
does to the heap, as one of a few *shapes* (`NewPost`, `LinkPost`, `GetPost`, `Relink`; the three insertions go through
the common `insert`), and the paths of `cbor_copy` as a relation (`Copies`).

The invariants that hold along every path of an operation (`Books`, `Fr`, `Pos`, `WF`) are proved about the shapes and by
recursion on `Copies`, never about the text of a primitive.  What the *result* of `cbor_copy` is — a tree that denotes what
the source denotes — is not read off `Copies`: `Lemmas/CopySpec.lean` walks `copy` again for that; the proofs that must know
which branch a primitive took (`Lemmas/HeapBuilder.lean`, `Props/C12.lean`) unfold the primitive themselves.
-/
namespace Heap

theorem foldl_inv {α β : Type} {P : β → Prop} {G : α → Prop} (g : β → α → β) (hg : ∀ b a, P b → G a → P (g b a)) :
    ∀ (xs : List α) (b : β), P b → (∀ a ∈ xs, G a) → P (xs.foldl g b)
  | [], _, hb, _ => hb
  | a :: xs, b, hb, hx => foldl_inv g hg xs _ (hg b a hb (hx a (by simp))) (fun y hy => hx y (by simp [hy]))

theorem list_le_sum (f : Ref → Nat) : ∀ (l : List Ref) (x : Ref), x ∈ l → f x ≤ (l.map f).sum
  | [], _, hx => by cases hx
  | a :: l, x, hx => by
    simp only [List.map_cons, List.sum_cons]
    rcases List.mem_cons.mp hx with e | e
    · subst e; omega
    · have := list_le_sum f l x e; omega

@[simp] theorem get_put_same (h : H) (r : Ref) (c : Option Cell) (hr : r < h.cells.length) : (h.put r c).get r = c := by
  simp [H.get, H.put, hr]

@[simp] theorem get_put_other (h : H) (r r' : Ref) (c : Option Cell) (hne : r' ≠ r) : (h.put r c).get r' = h.get r' := by
  simp [H.get, H.put, Ne.symm hne]

theorem get_lt {h : H} {r : Ref} {c : Cell} (hg : h.get r = some c) : r < h.cells.length := by
  unfold H.get at hg
  cases hh : h.cells[r]? with
  | none => simp [hh] at hg
  | some v => exact (List.getElem?_eq_some_iff.mp hh).1

theorem get_none_of_ge (h : H) (r : Ref) (hr : h.cells.length ≤ r) : h.get r = none := by
  simp [H.get, List.getElem?_eq_none hr]

theorem get_congr {h h' : H} (e : h'.cells = h.cells) (r : Ref) : h'.get r = h.get r := by simp [H.get, e]

theorem get_put_some {h : H} {a r : Ref} {v : Option Cell} {c : Cell} (hg : (h.put a v).get r = some c) :
    (r = a ∧ v = some c) ∨ (r ≠ a ∧ h.get r = some c) := by
  by_cases e : r = a
  · subst e
    by_cases hl : r < h.cells.length
    · rw [get_put_same _ _ _ hl] at hg; exact Or.inl ⟨rfl, hg⟩
    · rw [get_none_of_ge _ _ (by simpa [H.put] using hl)] at hg; cases hg
  · rw [get_put_other _ _ _ _ e] at hg; exact Or.inr ⟨e, hg⟩

@[simp] theorem put_reqs (h : H) (r : Ref) (c : Option Cell) : (h.put r c).reqs = h.reqs := rfl
@[simp] theorem put_fault (h : H) (r : Ref) (c : Option Cell) : (h.put r c).fault = h.fault := rfl
@[simp] theorem put_length (h : H) (r : Ref) (c : Option Cell) : (h.put r c).cells.length = h.cells.length := by simp [H.put]

theorem get_snoc_same {h h' : H} {c : Cell} (e : h'.cells = h.cells ++ [some c]) : h'.get h.cells.length = some c := by
  simp [H.get, e]

theorem get_snoc_other {h h' : H} {c : Cell} (e : h'.cells = h.cells ++ [some c]) (x : Nat) (hx : x ≠ h.cells.length) : h'.get x = h.get x := by
  simp only [H.get, e]
  by_cases hl : x < h.cells.length
  · rw [List.getElem?_append_left hl]
  · rw [List.getElem?_eq_none (by simp only [List.length_append, List.length_cons, List.length_nil]; omega), List.getElem?_eq_none (by omega)]

theorem get_new_same (h : H) (n : Node) : (h.new n).2.get h.cells.length = some ⟨n, 1⟩ := get_snoc_same rfl

theorem new_len (h : H) (n : Node) : (h.new n).2.cells.length = h.cells.length + 1 := by
  simp [H.new]

theorem get_new_other (h : H) (n : Node) (r : Ref) (hr : r ≠ h.cells.length) : (h.new n).2.get r = h.get r := get_snoc_other rfl r hr

theorem get_snoc_some {h h' : H} {c c' : Cell} {r : Ref} (e : h'.cells = h.cells ++ [some c]) (hg : h'.get r = some c') :
    (r = h.cells.length ∧ c' = c) ∨ (r ≠ h.cells.length ∧ h.get r = some c') := by
  by_cases er : r = h.cells.length
  · subst er; rw [get_snoc_same e] at hg; cases hg; exact Or.inl ⟨rfl, rfl⟩
  · rw [get_snoc_other e r er] at hg; exact Or.inr ⟨er, hg⟩

theorem incref_get_same (h : H) (r : Ref) (c : Cell) (hg : h.get r = some c) :
    (h.incref r).get r = some { c with rc := c.rc + 1 } := by
  simp [H.incref, hg, get_lt hg]

theorem incref_get_other (h : H) (r r' : Ref) (hne : r' ≠ r) : (h.incref r).get r' = h.get r' := by
  unfold H.incref
  split
  · simp [hne]
  · rfl

@[simp] theorem incref_reqs (h : H) (r : Ref) : (h.incref r).reqs = h.reqs := by
  unfold H.incref; split <;> rfl

theorem incref_fault (h : H) (r : Ref) (c : Cell) (hg : h.get r = some c) : (h.incref r).fault = h.fault := by
  simp [H.incref, hg]

theorem incref_fault_false {h : H} {x : Ref} (hf : (h.incref x).fault = false) : h.fault = false ∧ ∃ c, h.get x = some c := by
  unfold H.incref at hf
  cases hg : h.get x with
  | none => simp [hg, H.bad] at hf
  | some c => simp [hg] at hf; exact ⟨hf, c, rfl⟩

/-- the guard the growth path evaluates is exact below 2^63 -/
theorem mulOk_small (a b : Nat) (h : a * b < 2 ^ 63) (ha : a < 2 ^ 64) (hb : b < 2 ^ 64) : mulOk a b = true := by
  unfold mulOk
  apply Props.C20.C20_mul_complete_half
  rw [Lemmas.ofNat_toNat_small a ha, Lemmas.ofNat_toNat_small b hb]; exact h

theorem mulOk_sound (a b : Nat) (ha : a < 2 ^ 64) (hb : b < 2 ^ 64) (h : mulOk a b = true) : a * b < 2 ^ 64 := by
  have := Props.C20.C20_mul_sound _ _ h
  rw [Lemmas.ofNat_toNat_small a ha, Lemmas.ofNat_toNat_small b hb] at this; exact this

theorem grow_same (ω : Oracle) (h : H) (sz al : Nat) :
    (grow ω h sz al).2.cells = h.cells ∧ (grow ω h sz al).2.fault = h.fault ∧ ∃ k, (grow ω h sz al).2.reqs = h.reqs + k := by
  unfold grow
  simp only [H.req]
  repeat' split
  all_goals first | exact ⟨rfl, rfl, 0, rfl⟩ | exact ⟨rfl, rfl, 1, rfl⟩

/-- the three things `decref` does to a heap: flag a fault, release a cell (and go on with its children), lower a count
that is at least 2.  `G` restricts the items it may be asked to release. -/
theorem decref_induction {P : H → Prop} {G : Ref → Prop} (hbad : ∀ h, P h → P h.bad)
    (hfree : ∀ h r c, P h → G r → h.get r = some c → P (h.put r none) ∧ ∀ y ∈ c.node.children, G y)
    (hdec : ∀ h r c, P h → G r → h.get r = some c → 2 ≤ c.rc → P (h.put r (some { c with rc := c.rc - 1 }))) :
    ∀ (f : Nat) (h : H) (r : Ref), P h → G r → P (decref f h r)
  | 0, h, _, hp, _ => hbad h hp
  | f+1, h, r, hp, hr => by
    unfold decref
    cases hg : h.get r with
    | none => exact hbad h hp
    | some c =>
      simp only
      split
      · exact hbad h hp
      · split
        · obtain ⟨h1, hch⟩ := hfree h r c hp hr hg
          exact foldl_inv _ (decref_induction hbad hfree hdec f) _ _ h1 hch
        · exact hdec h r c hp hr hg (by omega)

/-- what releasing references can do to a cell that survives: its node is untouched, its count does not grow -/
def Shrinks (h h' : H) : Prop :=
  h'.cells.length = h.cells.length ∧ h'.reqs = h.reqs ∧
  ∀ r c', h'.get r = some c' → ∃ c, h.get r = some c ∧ c'.node = c.node ∧ c'.rc ≤ c.rc

theorem Shrinks.refl (h : H) : Shrinks h h := ⟨rfl, rfl, fun _ c' hg => ⟨c', hg, rfl, Nat.le_refl _⟩⟩

theorem Shrinks.trans {a b c : H} (h1 : Shrinks a b) (h2 : Shrinks b c) : Shrinks a c :=
  ⟨h2.1.trans h1.1, h2.2.1.trans h1.2.1, fun r c' hg => by
    obtain ⟨c1, g1, n1, r1⟩ := h2.2.2 r c' hg
    obtain ⟨c0, g0, n0, r0⟩ := h1.2.2 r c1 g1
    exact ⟨c0, g0, n1.trans n0, Nat.le_trans r1 r0⟩⟩

theorem shrinks_bad (h : H) : Shrinks h h.bad := ⟨rfl, rfl, fun _ c' hg => ⟨c', hg, rfl, Nat.le_refl _⟩⟩

theorem shrinks_put_none (h : H) (r : Ref) : Shrinks h (h.put r none) :=
  ⟨by simp, rfl, fun r' c' hg => by
    rcases get_put_some hg with ⟨_, e⟩ | ⟨_, e⟩
    · cases e
    · exact ⟨c', e, rfl, Nat.le_refl _⟩⟩

theorem shrinks_put_dec (h : H) (r : Ref) (c : Cell) (hg : h.get r = some c) (k : Nat) (hk : k ≤ c.rc) :
    Shrinks h (h.put r (some { c with rc := k })) :=
  ⟨by simp, rfl, fun r' c' hg' => by
    rcases get_put_some hg' with ⟨e, e'⟩ | ⟨_, e⟩
    · cases e'; subst e; exact ⟨c, hg, rfl, hk⟩
    · exact ⟨c', e, rfl, Nat.le_refl _⟩⟩

theorem decref_shrinks (f : Nat) (h : H) (r : Ref) : Shrinks h (decref f h r) :=
  decref_induction (P := Shrinks h) (G := fun _ => True) (fun h' s => s.trans (shrinks_bad h'))
    (fun h' r _ s _ _ => ⟨s.trans (shrinks_put_none h' r), fun _ _ => trivial⟩)
    (fun h' r c s _ hg _ => s.trans (shrinks_put_dec h' r c hg _ (Nat.sub_le _ _))) f h r (Shrinks.refl h) trivial

theorem H.decref_shrinks (h : H) (r : Ref) : Shrinks h (h.decref r) := Heap.decref_shrinks _ h r

def Closed (N : Nat) (h : H) : Prop := ∀ r c, r < N → h.get r = some c → ∀ y ∈ c.node.children, y < N

theorem closed_of_shrinks {N : Nat} {h h' : H} (hc : Closed N h) (hs : Shrinks h h') : Closed N h' := by
  intro r c hr hg y hy
  obtain ⟨c0, hg0, hn, _⟩ := hs.2.2 r c hg
  exact hc r c0 hr hg0 y (hn ▸ hy)

theorem closed_congr {N : Nat} {h h' : H} (hc : Closed N h) (e : ∀ r, r < N → h'.get r = h.get r) : Closed N h' :=
  fun r c hr hg y hy => hc r c hr (by rw [← e r hr]; exact hg) y hy

/-- once the client has broken a rule the flag stays up -/
def Sticky (h h' : H) : Prop := h.fault = true → h'.fault = true

theorem Sticky.refl (h : H) : Sticky h h := id
theorem Sticky.trans {a b c : H} (h1 : Sticky a b) (h2 : Sticky b c) : Sticky a c := fun h => h2 (h1 h)

theorem sticky_bad (h : H) : Sticky h h.bad := fun _ => rfl
theorem sticky_incref (h : H) (x : Ref) : Sticky h (h.incref x) := by
  unfold H.incref; split
  · exact id
  · exact fun _ => rfl
theorem sticky_decref (h : H) (x : Ref) : Sticky h (h.decref x) :=
  decref_induction (P := Sticky h) (G := fun _ => True) (fun h' s => s.trans (sticky_bad h')) (fun _ _ _ s _ _ => ⟨s, fun _ _ => trivial⟩)
    (fun _ _ _ s _ _ _ => s) _ h x (Sticky.refl h) trivial

theorem sticky_false {h h' : H} (hs : Sticky h h') (hf : h'.fault = false) : h.fault = false := by
  cases hh : h.fault with
  | false => rfl
  | true => rw [hs hh] at hf; cases hf

/-- nothing happened to the items: a refusal, or a broken rule, which only raises the flag -/
def Same (h h' : H) : Prop := h'.cells = h.cells ∧ Sticky h h'

theorem Same.refl (h : H) : Same h h := ⟨rfl, id⟩
theorem Same.bad (h : H) : Same h h.bad := ⟨rfl, fun _ => rfl⟩

/-- outcome of allocating a childless node: one new cell with count one at the end, or nothing changed -/
def NewPost (n : Node) (h : H) (r : Option Ref × H) : Prop :=
  r.2.fault = h.fault ∧
  match r.1 with
  | some y => y = h.cells.length ∧ r.2.cells = h.cells ++ [some ⟨n, 1⟩]
  | none => r.2.cells = h.cells

theorem new1_post (ω : Oracle) (h : H) (n : Node) : NewPost n h (new1 ω h n) := by
  unfold new1; simp only [H.req]
  by_cases h1 : ω h.reqs = true
  · simp only [h1, if_true]; exact ⟨rfl, rfl, rfl⟩
  · simp only [h1]; exact ⟨rfl, rfl⟩

theorem new2_post (ω : Oracle) (h : H) (n : Node) : NewPost n h (new2 ω h n) := by
  unfold new2; simp only [H.req]
  by_cases h1 : ω h.reqs = true <;> by_cases h2 : ω (h.reqs + 1) = true <;>
    simp only [h1, h2, Bool.not_true, Bool.false_eq_true, if_false, if_true, Bool.not_false]
  all_goals first | exact ⟨rfl, rfl, rfl⟩ | exact ⟨rfl, rfl⟩

theorem newMulti_post (ω : Oracle) (h : H) (a b : Nat) (n : Node) : NewPost n h (newMulti ω h a b n) := by
  unfold newMulti; simp only [H.req]
  by_cases h1 : ω h.reqs = true <;> by_cases h3 : mulOk a b = true <;> by_cases h2 : ω (h.reqs + 1) = true <;>
    simp only [h1, h2, h3, Bool.not_true, Bool.false_eq_true, if_false, if_true, Bool.not_false]
  all_goals first | exact ⟨rfl, rfl, rfl⟩ | exact ⟨rfl, rfl⟩

theorem NewPost.refused {n : Node} {h : H} {r : Option Ref × H} (hp : NewPost n h r) (hr : r.1 = none) :
    r.2.cells = h.cells ∧ r.2.fault = h.fault := by
  obtain ⟨o, h'⟩ := r
  cases hr
  exact ⟨hp.2, hp.1⟩

theorem NewPost.granted {n : Node} {h h' : H} {y : Ref} (hp : NewPost n h (some y, h')) :
    y = h.cells.length ∧ h'.cells = h.cells ++ [some ⟨n, 1⟩] ∧ h'.fault = h.fault :=
  ⟨hp.2.1, hp.2.2, hp.1⟩

/-- the cell at `a` is overwritten by one with the same count whose children are the old ones without `del` and with `add`
(as multisets), and every member of `add` is then counted once more; allocator requests may have been made on the way -/
def Relink (h : H) (a : Ref) (del add : List Ref) (h' : H) : Prop :=
  ∃ (h1 : H) (c c' : Cell), h1.cells = h.cells ∧ h1.fault = h.fault ∧ h.get a = some c ∧ c'.rc = c.rc ∧
    (∀ r, c'.node.children.count r + del.count r = c.node.children.count r + add.count r) ∧
    h' = add.foldl H.incref (h1.put a (some c'))

theorem mem_of_relinked {cs cs' del add : List Ref} (hch : ∀ r, cs'.count r + del.count r = cs.count r + add.count r) {y : Ref}
    (hy : y ∈ cs' ++ del) : y ∈ cs ∨ y ∈ add := by
  have := hch y
  have h0 : 0 < (cs' ++ del).count y := List.count_pos_iff.mpr hy
  rw [List.count_append] at h0
  rcases Nat.eq_zero_or_pos (cs.count y) with e | e
  · exact Or.inr (List.count_pos_iff.mp (by omega))
  · exact Or.inl (List.count_pos_iff.mp e)

theorem Relink.append {h h1 : H} {a : Ref} {xs : List Ref} {c c' : Cell} (e : h1.cells = h.cells) (ef : h1.fault = h.fault)
    (hg : h.get a = some c) (hrc : c'.rc = c.rc) (hch : c'.node.children = c.node.children ++ xs) :
    Relink h a [] xs (xs.foldl H.incref (h1.put a (some c'))) :=
  ⟨h1, c, c', e, ef, hg, hrc, fun r => by simp [hch, List.count_append], rfl⟩

/-- outcome of storing `xs` as children of `a`, in place of `del` which are released: done, or nothing happened -/
def LinkPost (h : H) (a : Ref) (del xs : List Ref) (r : Bool × H) : Prop :=
  match r.1 with
  | true => ∃ h1, Relink h a del xs h1 ∧ r.2 = del.foldl H.decref h1
  | false => Same h r.2

theorem LinkPost.refused {h : H} {a : Ref} {del xs : List Ref} {r : Bool × H} (hp : LinkPost h a del xs r) (hr : r.1 = false) :
    r.2.cells = h.cells := by
  obtain ⟨ok, h'⟩ := r
  cases hr
  exact hp.1

/-- What the three insertions do once the container cell `⟨mk xs al, rc⟩` has been found at `a`: `mk` rebuilds the node from
contents and capacity, `full` is the outcome of the capacity test, `refs` are the references the new element carries. -/
def insert {β : Type} (ω : Oracle) (h : H) (a : Ref) (rc : Nat) (mk : List β → Nat → Node) (definite : Bool) (esz : Nat)
    (xs : List β) (al : Nat) (full : Bool) (x : β) (refs : List Ref) : Bool × H :=
  if !full then (true, refs.foldl H.incref (h.put a (some ⟨mk (xs ++ [x]) al, rc⟩)))
  else if definite then (false, h)
  else match grow ω h esz al with
    | (some na, h') => (true, refs.foldl H.incref (h'.put a (some ⟨mk (xs ++ [x]) na, rc⟩)))
    | (none, h') => (false, h')

theorem arrPush_eq {ω : Oracle} {h : H} {a x : Ref} {d : Bool} {xs : List Ref} {al rc : Nat}
    (hg : h.get a = some ⟨.arr d xs al, rc⟩) :
    arrPush ω h a x = insert ω h a rc (Node.arr d) d 8 xs al (decide (xs.length ≥ al)) x [x] := by
  unfold arrPush insert; rw [hg]
  by_cases hl : xs.length ≥ al <;> cases d <;> simp [hl]
  cases grow ω h 8 al with | mk o h' => cases o <;> rfl

theorem mapAdd_eq {ω : Oracle} {h : H} {m k v : Ref} {d : Bool} {ps : List (Ref × Ref)} {al rc : Nat}
    (hg : h.get m = some ⟨.map d ps al, rc⟩) :
    mapAdd ω h m k v = insert ω h m rc (Node.map d) d 16 ps al (decide (ps.length ≥ al)) (k, v) [k, v] := by
  unfold mapAdd insert; rw [hg]
  by_cases hl : ps.length ≥ al <;> cases d <;> simp [hl]
  cases grow ω h 16 al with | mk o h' => cases o <;> rfl

theorem addChunk_eq {ω : Oracle} {h : H} {s c : Ref} {t : Bool} {cs : List Ref} {cap rc rc' : Nat} {b : List UInt8}
    (hs : h.get s = some ⟨.strI t cs cap, rc⟩) (hc : h.get c = some ⟨.str t b, rc'⟩) :
    addChunk ω h s c = insert ω h s rc (Node.strI t) false 8 cs cap (decide (cs.length = cap)) c [c] := by
  unfold addChunk insert; rw [hs, hc]
  by_cases hl : cs.length = cap <;> simp [hl]
  cases grow ω h 8 cap with | mk o h' => cases o <;> rfl

theorem insert_post {β : Type} {ω : Oracle} {h : H} {a : Ref} {rc : Nat} {mk : List β → Nat → Node} {d : Bool} {esz : Nat}
    {xs : List β} {al : Nat} {full : Bool} {x : β} {refs : List Ref} (hg : h.get a = some ⟨mk xs al, rc⟩)
    (hch : ∀ al', (mk (xs ++ [x]) al').children = (mk xs al).children ++ refs) :
    LinkPost h a [] refs (insert ω h a rc mk d esz xs al full x refs) := by
  unfold insert
  split
  · exact ⟨_, Relink.append (c' := ⟨mk (xs ++ [x]) al, rc⟩) rfl rfl hg rfl (hch al), rfl⟩
  · split
    · exact Same.refl h
    · have hs := grow_same ω h esz al
      cases hgr : grow ω h esz al with
      | mk o h1 =>
        rw [hgr] at hs
        cases o with
        | none => exact ⟨hs.1, fun hf => by rw [hs.2.1]; exact hf⟩
        | some na => exact ⟨_, Relink.append (c' := ⟨mk (xs ++ [x]) na, rc⟩) hs.1 hs.2.1 hg rfl (hch na), rfl⟩

theorem arrPush_post (ω : Oracle) (h : H) (a x : Ref) : LinkPost h a [] [x] (arrPush ω h a x) := by
  cases hg : h.get a with
  | none => simp only [arrPush, hg]; exact Same.bad h
  | some c =>
    obtain ⟨n, rc⟩ := c
    cases n with
    | arr d xs al => rw [arrPush_eq hg]; exact insert_post hg (fun _ => rfl)
    | _ => simp only [arrPush, hg]; exact Same.bad h

theorem mapAdd_post (ω : Oracle) (h : H) (m k v : Ref) : LinkPost h m [] [k, v] (mapAdd ω h m k v) := by
  cases hg : h.get m with
  | none => simp only [mapAdd, hg]; exact Same.bad h
  | some c =>
    obtain ⟨n, rc⟩ := c
    cases n with
    | map d ps al => rw [mapAdd_eq hg]; exact insert_post hg (fun _ => by simp [Node.children])
    | _ => simp only [mapAdd, hg]; exact Same.bad h

theorem addChunk_post (ω : Oracle) (h : H) (s c : Ref) : LinkPost h s [] [c] (addChunk ω h s c) := by
  unfold addChunk
  split
  · rename_i t chunks cap rc t' b rc' hg hgc
    split
    · exact Same.bad h
    · rename_i e
      have e : t' = t := by simpa using Eq.symm (Decidable.of_not_not e)
      subst e
      have := addChunk_eq (ω := ω) hg hgc
      simp only [addChunk, hg, hgc, ne_eq, not_true, if_false] at this
      rw [this]; exact insert_post hg (fun _ => rfl)
  · exact Same.bad h

theorem count_set_add (items : List Ref) (i : Nat) (x old r : Ref) (hil : i < items.length) (hio : items[i] = old) :
    (items.set i x).count r + [old].count r = items.count r + [x].count r := by
  have h1 := List.count_set (a := x) (b := r) (l := items) (i := i) hil
  rw [hio] at h1
  have hpos : old = r → 0 < items.count r := by
    intro e; subst e
    exact List.count_pos_iff.mpr (hio ▸ List.getElem_mem hil)
  simp only [List.count_cons, List.count_nil, beq_iff_eq, Nat.zero_add] at h1 ⊢
  by_cases e1 : old = r
  · have := hpos e1
    by_cases e2 : x = r <;> simp [e1, e2] at h1 ⊢ <;> omega
  · by_cases e2 : x = r <;> simp [e1, e2] at h1 ⊢ <;> omega

/-- `cbor_array_replace` inside the array, up to the release of the old member: the cell is overwritten and `x` counted -/
theorem arrReplace_relink {h : H} {a x old : Ref} {i : Nat} {d : Bool} {items : List Ref} {al rc : Nat}
    (hg : h.get a = some ⟨.arr d items al, rc⟩) (hi : items[i]? = some old) :
    Relink h a [old] [x] ((h.put a (some ⟨.arr d (items.set i x) al, rc⟩)).incref x) := by
  obtain ⟨hil, hio⟩ := List.getElem?_eq_some_iff.mp hi
  exact ⟨h, _, ⟨.arr d (items.set i x) al, rc⟩, rfl, rfl, hg, rfl, fun r => count_set_add items i x old r hil hio, rfl⟩

/-- `cbor_array_replace` inside the array, as its three steps: overwrite the cell, count `x`, release the old member -/
theorem arrReplace_eq {h : H} {a x old : Ref} {i : Nat} {d : Bool} {items : List Ref} {al rc : Nat}
    (hg : h.get a = some ⟨.arr d items al, rc⟩) (hi : items[i]? = some old) :
    arrReplace h a i x = (true, ((h.put a (some ⟨.arr d (items.set i x) al, rc⟩)).incref x).decref old) := by
  simp only [arrReplace, hg, hi]

theorem arrReplace_post (h : H) (a : Ref) (i : Nat) (x : Ref) : ∃ del, LinkPost h a del [x] (arrReplace h a i x) := by
  unfold arrReplace
  split
  · rename_i d items alloc rc hg
    cases hi : items[i]? with
    | none => exact ⟨[], Same.refl h⟩
    | some old => exact ⟨[old], _, arrReplace_relink hg hi, rfl⟩
  · exact ⟨[], Same.bad h⟩

theorem arrSet_post (ω : Oracle) (h : H) (a : Ref) (i : Nat) (x : Ref) : ∃ del, LinkPost h a del [x] (arrSet ω h a i x) := by
  unfold arrSet
  split
  · split
    · exact ⟨[], arrPush_post ω h a x⟩
    · split
      · exact arrReplace_post h a i x
      · exact ⟨[], Same.refl h⟩
  · exact ⟨[], Same.bad h⟩

/-- `cbor_tag_set_item`: the previous content, handed back, is what the tag no longer refers to -/
theorem tagSet_post (h : H) (t x : Ref) :
    (∃ old h', tagSet h t x = (old, h') ∧ Relink h t old.toList [x] h') ∨ tagSet h t x = (none, h.bad) := by
  unfold tagSet
  split
  · rename_i n old rc hg
    exact Or.inl ⟨_, _, rfl, h, _, ⟨.tag n (some x), rc⟩, rfl, rfl, hg, rfl, fun r => by cases old <;> simp [Node.children]; omega, rfl⟩
  · exact Or.inr rfl

/-- outcome of handing out a reference: the item is counted once more, or nothing happened -/
def GetPost (h : H) (r : Option Ref × H) : Prop :=
  match r.1 with
  | some x => r.2 = h.incref x
  | none => Same h r.2

theorem arrGet_post (h : H) (a : Ref) (i : Nat) : GetPost h (arrGet h a i) := by
  unfold arrGet
  split
  · split
    · rfl
    · exact Same.refl h
  · exact Same.bad h

theorem tagGet_post (h : H) (t : Ref) : GetPost h (tagGet h t) := by
  unfold tagGet
  split
  · rfl
  · exact Same.bad h

/-- `cbor_build_tag`: nothing changed, or a fresh tag (in the intermediate heap `h1`) that is then linked to `x` -/
theorem buildTag_post (ω : Oracle) (h : H) (n : Nat) (x : Ref) :
    (∃ h', buildTag ω h n x = (none, h') ∧ h'.cells = h.cells ∧ h'.fault = h.fault) ∨
    ∃ t h1 h', buildTag ω h n x = (some t, h') ∧ NewPost (.tag n none) h (some t, h1) ∧ Relink h1 t [] [x] h' := by
  unfold buildTag
  have hp := new1_post ω h (.tag n none)
  cases hn : new1 ω h (.tag n none) with
  | mk o h1 =>
    rw [hn] at hp
    cases o with
    | none => exact Or.inl ⟨h1, rfl, hp.refused rfl⟩
    | some t =>
      obtain ⟨rfl, e, _⟩ := hp.granted
      have hg : h1.get h.cells.length = some ⟨.tag n none, 1⟩ := get_snoc_same e
      refine Or.inr ⟨_, h1, _, ?_, hp, Relink.append (c' := ⟨.tag n (some x), 1⟩) rfl rfl hg rfl rfl⟩
      simp only [tagSet, hg, List.foldl_cons, List.foldl_nil]

abbrev flat (ps : List (Ref × Ref)) : List Ref := ps.flatMap fun kv => [kv.1, kv.2]

theorem forall_flat {P : Ref → Prop} {ps : List (Ref × Ref)} : (∀ x ∈ flat ps, P x) ↔ ∀ kv ∈ ps, P kv.1 ∧ P kv.2 := by
  simp only [flat, List.mem_flatMap, List.mem_cons, List.not_mem_nil, or_false]
  exact ⟨fun k kv hkv => ⟨k _ ⟨kv, hkv, Or.inl rfl⟩, k _ ⟨kv, hkv, Or.inr rfl⟩⟩,
    fun k x ⟨kv, hkv, e⟩ => by rcases e with e | e <;> rw [e]; exact (k kv hkv).1; exact (k kv hkv).2⟩

mutual
/-- `Copies ω h r out`: `cbor_copy` of `r`, started in `h`, can end with `out`; one rule per path through the C function -/
inductive Copies (ω : Oracle) : H → Ref → Option Ref × H → Prop
  | bad (h r) : Copies ω h r (none, h.bad)
  /-- a leaf has been allocated, or the first allocation was refused -/
  | alloc {h r c n out} : h.get r = some c → n.children = [] → NewPost n h out → (out.1 = none ∨ c.node.children = []) →
      Copies ω h r out
  | members {h r c n res h1 out} : h.get r = some c → n.children = [] → NewPost n h (some res, h1) →
      CopiesInto ω h1 res c.node.children out → Copies ω h r out
  | tag0 {h r c x h1} : h.get r = some c → c.node.children = [x] → Copies ω h x (none, h1) → Copies ω h r (none, h1)
  | tag1 {h r c n x xc h1} : h.get r = some c → c.node = .tag n (some x) → Copies ω h x (some xc, h1) →
      Copies ω h r ((buildTag ω h1 n xc).1, (buildTag ω h1 n xc).2.decref xc)
/-- the loop that copies the members `xs` into the new container `res`; for a map `xs` lists key, value, key, value, … -/
inductive CopiesInto (ω : Oracle) : H → Ref → List Ref → Option Ref × H → Prop
  | bad (h res xs) : CopiesInto ω h res xs (none, h.bad)
  | nil (h res) : CopiesInto ω h res [] (some res, h)
  | item0 {h res x xs h1} : Copies ω h x (none, h1) → CopiesInto ω h res (x :: xs) (none, h1.decref res)
  | item1 {h res x xs e h1 h2} : Copies ω h x (some e, h1) → LinkPost h1 res [] [e] (false, h2) →
      CopiesInto ω h res (x :: xs) (none, (h2.decref e).decref res)
  | item2 {h res x xs e h1 h2 out} : Copies ω h x (some e, h1) → LinkPost h1 res [] [e] (true, h2) →
      CopiesInto ω (h2.decref e) res xs out → CopiesInto ω h res (x :: xs) out
  | pair0 {h res k v xs kc h1 h2} : Copies ω h k (some kc, h1) → Copies ω h1 v (none, h2) →
      CopiesInto ω h res (k :: v :: xs) (none, (h2.decref res).decref kc)
  | pair1 {h res k v xs kc vc h1 h2 h3} : Copies ω h k (some kc, h1) → Copies ω h1 v (some vc, h2) →
      LinkPost h2 res [] [kc, vc] (false, h3) → CopiesInto ω h res (k :: v :: xs) (none, ((h3.decref res).decref kc).decref vc)
  | pair2 {h res k v xs kc vc h1 h2 h3 out} : Copies ω h k (some kc, h1) → Copies ω h1 v (some vc, h2) →
      LinkPost h2 res [] [kc, vc] (true, h3) → CopiesInto ω ((h3.decref kc).decref vc) res xs out →
      CopiesInto ω h res (k :: v :: xs) out
end

/-- the control flow of `cbor_copy` and its three member loops, once -/
theorem copy_paths (ω : Oracle) : ∀ f : Nat,
    (∀ h r, Copies ω h r (copy ω f h r)) ∧ (∀ h res xs, CopiesInto ω h res xs (copyItems ω f h res xs)) ∧
    (∀ h res xs, CopiesInto ω h res xs (copyChunks ω f h res xs)) ∧ (∀ h res ps, CopiesInto ω h res (flat ps) (copyPairs ω f h res ps))
  | 0 => ⟨fun h r => by unfold copy; exact .bad h r, fun h res xs => by unfold copyItems; exact .bad h res xs,
          fun h res xs => by unfold copyChunks; exact .bad h res xs, fun h res ps => by unfold copyPairs; exact .bad h res _⟩
  | f+1 => by
    obtain ⟨ic, ii, ich, ip⟩ := copy_paths ω f
    -- a container: allocate `n`, then run the member loop
    have container : ∀ h r c n (al : Option Ref × H) (loop : H → Ref → Option Ref × H), h.get r = some c → n.children = [] →
        NewPost n h al → (∀ h1 res, CopiesInto ω h1 res c.node.children (loop h1 res)) →
        Copies ω h r (match al with | (none, h1) => (none, h1) | (some res, h1) => loop h1 res) := by
      intro h r c n al loop hg hn hp hl
      obtain ⟨o, h1⟩ := al
      cases o with
      | none => exact .alloc hg hn hp (Or.inl rfl)
      | some res => exact .members hg hn hp (hl h1 res)
    refine ⟨?_, ?_, ?_, ?_⟩
    · intro h r
      unfold copy
      cases hg : h.get r with
      | none => exact .bad h r
      | some c =>
        obtain ⟨n, rc⟩ := c
        cases n with
        | str t b => exact .alloc hg rfl (new2_post ω h _) (Or.inr rfl)
        | strI t chunks cap => exact container h r _ _ _ _ hg rfl (new2_post ω h (.strI t [] 0)) (fun h1 res => ich h1 res chunks)
        | arr d items alloc' =>
          cases d with
          | true => exact container h r _ _ _ _ hg rfl (newMulti_post ω h 8 items.length (.arr true [] items.length)) (fun h1 res => ii h1 res items)
          | false => exact container h r _ _ _ _ hg rfl (new1_post ω h (.arr false [] 0)) (fun h1 res => ii h1 res items)
        | map d pairs alloc' =>
          cases d with
          | true => exact container h r _ _ _ _ hg rfl (newMulti_post ω h 16 pairs.length (.map true [] pairs.length)) (fun h1 res => ip h1 res pairs)
          | false => exact container h r _ _ _ _ hg rfl (new1_post ω h (.map false [] 0)) (fun h1 res => ip h1 res pairs)
        | tag k o =>
          cases o with
          | none => exact .bad h r
          | some x =>
            simp only
            have hx := ic h x
            split
            · rename_i h1 hn
              rw [hn] at hx; exact .tag0 hg rfl hx
            · rename_i xc h1 hn
              rw [hn] at hx
              have := Copies.tag1 hg rfl hx
              split <;> rename_i hbt <;> rw [hbt] at this <;> exact this
        | int _ _ _ | ctrl _ | half _ | single _ | double _ => exact .alloc hg rfl (new1_post ω h _) (Or.inr rfl)
    · intro h res xs
      unfold copyItems
      cases xs with
      | nil => exact .nil h res
      | cons x xs =>
        simp only
        have hx := ic h x
        split
        · rename_i h1 hn
          rw [hn] at hx; exact .item0 hx
        · rename_i e h1 hn
          rw [hn] at hx
          have hp := arrPush_post ω h1 res e
          split <;> rename_i h2 hpp <;> rw [hpp] at hp
          · exact .item1 hx hp
          · exact .item2 hx hp (ii _ res xs)
    · intro h res xs
      unfold copyChunks
      cases xs with
      | nil => exact .nil h res
      | cons x xs =>
        simp only
        have hx := ic h x
        split
        · rename_i h1 hn
          rw [hn] at hx; exact .item0 hx
        · rename_i e h1 hn
          rw [hn] at hx
          have hp := addChunk_post ω h1 res e
          split <;> rename_i h2 hpp <;> rw [hpp] at hp
          · exact .item1 hx hp
          · exact .item2 hx hp (ich _ res xs)
    · intro h res ps
      unfold copyPairs
      cases ps with
      | nil => exact .nil h res
      | cons kv ps =>
        obtain ⟨k, v⟩ := kv
        simp only
        have hk := ic h k
        split
        · rename_i h1 hn
          rw [hn] at hk; exact .item0 hk
        · rename_i kc h1 hn
          rw [hn] at hk
          have hv := ic h1 v
          split
          · rename_i h2 hn2
            rw [hn2] at hv; exact .pair0 hk hv
          · rename_i vc h2 hn2
            rw [hn2] at hv
            have hp := mapAdd_post ω h2 res kc vc
            split <;> rename_i h3 hpp <;> rw [hpp] at hp
            · exact .pair1 hk hv hp
            · exact .pair2 hk hv hp (ip _ res ps)

theorem H.copy_paths (ω : Oracle) (h : H) (r : Ref) : Copies ω h r (h.copy ω r) := (Heap.copy_paths ω _).1 h r

end Heap
