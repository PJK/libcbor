import Cbor.Lemmas.PubEncoders
/-!
The generated `cbor_encode_half`: whatever the float, it ends in one call of the 16-bit head encoder (`half_struct`), and
on a float with the fields of a normal half it packs those fields (`halfRes_normal`).
-/
-- the simp sets name the exponent field and the `|||` of disjoint fields in each spelling the C may use; only one occurs
-- in any one translation
set_option linter.unusedSimpArgs false
namespace Lemmas
open Gen

/-- the two bytes after the head byte of a three-byte buffer, as a big-endian number.  One `match` on the whole
buffer: the kernel evaluates the encoder that produced it once, not once per byte read. -/
def read16 (b : Array UInt8) : UInt16 :=
  match b.toList with
  | [_, hi, lo] => UInt16.ofNat (hi.toNat * 256 + lo.toNat)
  | _ => 0

/-- the 16-bit pattern `cbor_encode_half` puts after the 0xF9 byte, read off the generated function itself -/
def halfRes (v : UInt32) : UInt16 :=
  read16 (cbor_encode_half v #[0, 0, 0] 0 3).2

theorem recover16 (res : UInt16) : read16 (_cbor_encode_uint16 res #[0, 0, 0] 0 3 (224 : UInt8)).2 = res := by
  have hv := res.toNat_lt
  rw [o7, enc16 _ _ _ _ 7 (by omega), hb_25]   -- via the specification lemma: independent of the generated text
  apply UInt16.toNat_inj.mp
  rw [encRes_of_le (n := 3) (bs := [_, _, _]) (Nat.le_refl 3)]
  simp [writeList, read16]
  omega

/-- whatever the float, `cbor_encode_half` ends in one call of the 16-bit head encoder with offset 0xE0 -/
theorem half_struct (v : UInt32) (buf : Array UInt8) (off : Nat) (n : UInt64) :
    cbor_encode_half v buf off n = _cbor_encode_uint16 (halfRes v) buf off n (224 : UInt8) := by
  unfold halfRes cbor_encode_half
  simp only []
  repeat' split
  all_goals simp only [recover16]

theorem pub_half (v : UInt32) (buf : Array UInt8) (off : Nat) (n : UInt64) :
    cbor_encode_half v buf off n = encRes buf off n (Spec.headBytes 7 25 (halfRes v).toNat) := by
  rw [half_struct, o7, enc16 _ _ _ _ 7 (by omega)]

/-- the exponent field of a binary32 pattern, masked after the shift as in `C.isNaN32` -/
theorem exp_field (v : UInt32) : ((v >>> (23 : UInt32)) &&& (255 : UInt32)).toNat = v.toNat / 8388608 % 256 := by
  simp only [UInt32.toNat_and, UInt32.toNat_shiftRight, UInt32.reduceToNat, Nat.reduceMod, and_255,
    Nat.shiftRight_eq_div_pow, Nat.reducePow]

/-- the same narrowed to `uint8_t`, masked after the shift or (primed) before it, `(val & 0x7F800000) >> 23` -/
theorem exp_field8 (v : UInt32) :
    (((v >>> (23 : UInt32)) &&& (255 : UInt32)).toUInt8).toNat = v.toNat / 8388608 % 256 := by
  rw [UInt32.toNat_toUInt8, exp_field]
  omega

theorem exp_field8' (v : UInt32) :
    (((v &&& (2139095040 : UInt32)) >>> (23 : UInt32)).toUInt8).toNat = v.toNat / 8388608 % 256 := by
  have h : (2139095040 : Nat) >>> 23 = 255 := by decide
  simp only [UInt32.toNat_toUInt8, UInt32.toNat_and, UInt32.toNat_shiftRight, UInt32.reduceToNat, Nat.reduceMod,
    Nat.shiftRight_and_distrib, h, and_255]
  simp only [Nat.shiftRight_eq_div_pow, Nat.reducePow]
  omega

theorem wrapS8_id (x : Int) (h : -128 ≤ x ∧ x < 128) : C.wrapS 8 x = x := by
  unfold C.wrapS; omega

theorem and_two_pow (k x : Nat) : x &&& 2 ^ k = x / 2 ^ k % 2 * 2 ^ k := by
  have hk : 0 < 2 ^ k := Nat.pow_pos (by decide)
  have hd : (x &&& 2 ^ k) / 2 ^ k = x / 2 ^ k % 2 := by rw [Nat.and_div_two_pow, Nat.div_self hk, Nat.and_one_is_mod]
  have hm : (x &&& 2 ^ k) % 2 ^ k = 0 := by rw [Nat.and_mod_two_pow, Nat.mod_self, Nat.and_zero]
  rw [← hd, ← Nat.add_zero (_ * _), ← hm, Nat.mul_comm, Nat.div_add_mod]

theorem or_mod_65536 (a b : Nat) : (a ||| b) % 65536 = a % 65536 ||| b % 65536 := Nat.or_mod_two_pow (n := 16)

/-- **A float with the fields of a normal half is packed field by field**: sign `s`, exponent `e + 112` (so that
`logical_exp = e - 15 ∈ [-14, 15]`), fraction `m · 2^13` give `s · 2^15 + e · 2^10 + m`. -/
theorem halfRes_normal (v : UInt32) (s e m : Nat) (hs : s < 2) (he1 : 1 ≤ e) (he2 : e ≤ 30) (hm : m < 1024)
    (hv : v.toNat = s * 2 ^ 31 + (e + 112) * 2 ^ 23 + m * 2 ^ 13) :
    (halfRes v).toNat = s * 2 ^ 15 + e * 2 ^ 10 + m := by
  -- Shape-independent, like `Props.C15.half_ok`: the exponent field, in either spelling, is rewritten to `e + 112`, a test
  -- of `isnan` to `false`, the `int8_t` narrowing of `exp - 127` disappears, every `if` is split, and each branch is closed
  -- by whichever applies.  The facts about the fields of `v` are handed to `simp` as terms and not kept as hypotheses:
  -- every `omega` below reads the whole context, and each `/`, `%` in it is paid for at every call.
  have hnan : C.isNaN32 v = false := by
    have hx : ((v >>> (23 : UInt32)) &&& (255 : UInt32)) ≠ 255 := fun h => by
      have h' := congrArg UInt32.toNat h
      rw [exp_field] at h'
      simp only [UInt32.reduceToNat] at h'
      omega
    simp [C.isNaN32, hx]
  unfold halfRes cbor_encode_half
  simp only []
  try simp only [exp_field8, exp_field8', show v.toNat / 8388608 % 256 = e + 112 by omega, hnan, Bool.false_eq_true,
    reduceIte]
  try simp (disch := omega) only [wrapS8_id]
  repeat' split
  all_goals simp only [recover16]
  all_goals first
    | (-- zero, subnormal, infinity, NaN, underflow: the path condition contradicts `1 ≤ e ≤ 30`
       exfalso
       cnorm
       omega)
    | (-- normal: to `Nat`.  `(uint8_t)logical_exp + 15` is `256 + e` when `e < 15`, and only the final `(uint16_t)` cuts
       -- the `2^18` off: so `% 65536` is pushed inside the `|||` before the disjoint fields are added up.
       simp only [UInt32.toNat_toUInt16, UInt16.toNat_toUInt32, UInt8.toNat_toUInt32, UInt32.toNat_or, UInt32.toNat_and,
         UInt32.toNat_shiftLeft, UInt32.toNat_shiftRight, UInt32.toNat_add, UInt32.reduceToNat, C.toU8,
         UInt8.toNat_ofNat', Nat.reducePow, Nat.reduceMod, or_mod_65536,
         and_two_pow 31, and_mask 23, Nat.shiftLeft_eq, Nat.shiftRight_eq_div_pow,
         show v.toNat / 2147483648 % 2 = s by omega, show v.toNat % 8388608 / 8192 = m by omega]
       simp (disch := omega) only [or_eq_add 10, or_eq_add 15, or_eq_add' 10, or_eq_add' 15]
       omega)

end Lemmas
