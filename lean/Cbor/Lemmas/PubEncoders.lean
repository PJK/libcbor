import Cbor.Lemmas.Encoders
/-!
Every public `cbor_encode_*` function of the generated `Gen.Encoding` module except `cbor_encode_half` (for it see
`Lemmas/Half.lean` and `Props/C15.lean`), characterised by the bytes it emits (`encRes`), plus its side conditions.
-/
namespace Lemmas
open Gen

theorem o7 : (224 : UInt8) = UInt8.ofNat (7 * 32) := by decide

/-- additional information used by the 8-bit encoders: immediate up to 23, one-byte argument above -/
def ai8 (v : Nat) : Nat := if v < 24 then v else 24

variable (buf : Array UInt8) (off : Nat) (n : UInt64)

theorem pub_uint8 (v : UInt8) : cbor_encode_uint8 v buf off n = encRes buf off n (Spec.headBytes 0 (ai8 v.toNat) v.toNat) := by
  simp only [cbor_encode_uint8, ai8]; exact enc8 _ _ _ _ 0 (by omega)
theorem pub_uint16 (v : UInt16) : cbor_encode_uint16 v buf off n = encRes buf off n (Spec.headBytes 0 25 v.toNat) := by
  simp only [cbor_encode_uint16]; exact enc16 _ _ _ _ 0 (by omega)
theorem pub_uint32 (v : UInt32) : cbor_encode_uint32 v buf off n = encRes buf off n (Spec.headBytes 0 26 v.toNat) := by
  simp only [cbor_encode_uint32]; exact enc32 _ _ _ _ 0 (by omega)
theorem pub_uint64 (v : UInt64) : cbor_encode_uint64 v buf off n = encRes buf off n (Spec.headBytes 0 27 v.toNat) := by
  simp only [cbor_encode_uint64]; exact enc64 _ _ _ _ 0 (by omega)
theorem pub_uint (v : UInt64) : cbor_encode_uint v buf off n = encRes buf off n (Spec.head 0 v.toNat) := by
  simp only [cbor_encode_uint]; exact encUint _ _ _ _ 0 (by omega)
theorem pub_negint8 (v : UInt8) : cbor_encode_negint8 v buf off n = encRes buf off n (Spec.headBytes 1 (ai8 v.toNat) v.toNat) := by
  simp only [cbor_encode_negint8, ai8]; exact enc8 _ _ _ _ 1 (by omega)
theorem pub_negint16 (v : UInt16) : cbor_encode_negint16 v buf off n = encRes buf off n (Spec.headBytes 1 25 v.toNat) := by
  simp only [cbor_encode_negint16]; exact enc16 _ _ _ _ 1 (by omega)
theorem pub_negint32 (v : UInt32) : cbor_encode_negint32 v buf off n = encRes buf off n (Spec.headBytes 1 26 v.toNat) := by
  simp only [cbor_encode_negint32]; exact enc32 _ _ _ _ 1 (by omega)
theorem pub_negint64 (v : UInt64) : cbor_encode_negint64 v buf off n = encRes buf off n (Spec.headBytes 1 27 v.toNat) := by
  simp only [cbor_encode_negint64]; exact enc64 _ _ _ _ 1 (by omega)
theorem pub_negint (v : UInt64) : cbor_encode_negint v buf off n = encRes buf off n (Spec.head 1 v.toNat) := by
  simp only [cbor_encode_negint]; exact encUint _ _ _ _ 1 (by omega)
theorem pub_bytestring_start (v : UInt64) : cbor_encode_bytestring_start v buf off n = encRes buf off n (Spec.head 2 v.toNat) := by
  simp only [cbor_encode_bytestring_start]; exact encUint _ _ _ _ 2 (by omega)
theorem pub_string_start (v : UInt64) : cbor_encode_string_start v buf off n = encRes buf off n (Spec.head 3 v.toNat) := by
  simp only [cbor_encode_string_start]; exact encUint _ _ _ _ 3 (by omega)
theorem pub_array_start (v : UInt64) : cbor_encode_array_start v buf off n = encRes buf off n (Spec.head 4 v.toNat) := by
  simp only [cbor_encode_array_start]; exact encUint _ _ _ _ 4 (by omega)
theorem pub_map_start (v : UInt64) : cbor_encode_map_start v buf off n = encRes buf off n (Spec.head 5 v.toNat) := by
  simp only [cbor_encode_map_start]; exact encUint _ _ _ _ 5 (by omega)
theorem pub_tag (v : UInt64) : cbor_encode_tag v buf off n = encRes buf off n (Spec.head 6 v.toNat) := by
  simp only [cbor_encode_tag]; exact encUint _ _ _ _ 6 (by omega)
theorem pub_ctrl (v : UInt8) : cbor_encode_ctrl v buf off n = encRes buf off n (Spec.headBytes 7 (ai8 v.toNat) v.toNat) := by
  simp only [cbor_encode_ctrl, ai8]; exact enc8 _ _ _ _ 7 (by omega)
theorem pub_indef_bytestring_start : cbor_encode_indef_bytestring_start buf off n = encRes buf off n [0x5F] := by
  simp only [cbor_encode_indef_bytestring_start, encByte]
theorem pub_indef_string_start : cbor_encode_indef_string_start buf off n = encRes buf off n [0x7F] := by
  simp only [cbor_encode_indef_string_start, encByte]
theorem pub_indef_array_start : cbor_encode_indef_array_start buf off n = encRes buf off n [0x9F] := by
  simp only [cbor_encode_indef_array_start, encByte]
theorem pub_indef_map_start : cbor_encode_indef_map_start buf off n = encRes buf off n [0xBF] := by
  simp only [cbor_encode_indef_map_start, encByte]
theorem pub_break : cbor_encode_break buf off n = encRes buf off n [0xFF] := by
  simp only [cbor_encode_break, encByte]
theorem pub_null : cbor_encode_null buf off n = encRes buf off n [0xF6] := by
  simp only [cbor_encode_null, encByte]
theorem pub_undef : cbor_encode_undef buf off n = encRes buf off n [0xF7] := by
  simp only [cbor_encode_undef, encByte]
theorem pub_bool (b : Bool) : cbor_encode_bool b buf off n = encRes buf off n [if b then 0xF5 else 0xF4] := by
  cases b <;> simp [cbor_encode_bool, encByte]

/-- canonical quiet NaN of the width for any NaN, the pattern itself otherwise -/
def canon32 (b : UInt32) : UInt32 := if C.isNaN32 b then 0x7FC00000 else b
def canon64 (b : UInt64) : UInt64 := if C.isNaN64 b then 0x7FF8000000000000 else b

theorem pub_single (v : UInt32) : cbor_encode_single v buf off n = encRes buf off n (Spec.headBytes 7 26 (canon32 v).toNat) := by
  unfold cbor_encode_single canon32
  simp only []
  repeat' split
  all_goals (rw [o7, enc32 _ _ _ _ 7 (by omega)])
  all_goals (first | rfl | simp_all)
theorem pub_double (v : UInt64) : cbor_encode_double v buf off n = encRes buf off n (Spec.headBytes 7 27 (canon64 v).toNat) := by
  unfold cbor_encode_double canon64
  simp only []
  repeat' split
  all_goals (rw [o7, enc64 _ _ _ _ 7 (by omega)])
  all_goals (first | rfl | simp_all)

variable (h : off + n.toNat ≤ buf.size)
include h
theorem pub_uint8_ok (v : UInt8) : cbor_encode_uint8.ok v buf off n = true := by simp [cbor_encode_uint8.ok, enc8_ok, h]
theorem pub_uint16_ok (v : UInt16) : cbor_encode_uint16.ok v buf off n = true := by simp [cbor_encode_uint16.ok, enc16_ok, h]
theorem pub_uint32_ok (v : UInt32) : cbor_encode_uint32.ok v buf off n = true := by simp [cbor_encode_uint32.ok, enc32_ok, h]
theorem pub_uint64_ok (v : UInt64) : cbor_encode_uint64.ok v buf off n = true := by simp [cbor_encode_uint64.ok, enc64_ok, h]
theorem pub_uint_ok (v : UInt64) : cbor_encode_uint.ok v buf off n = true := by simp [cbor_encode_uint.ok, encUint_ok, h]
theorem pub_negint8_ok (v : UInt8) : cbor_encode_negint8.ok v buf off n = true := by simp [cbor_encode_negint8.ok, enc8_ok, h]
theorem pub_negint16_ok (v : UInt16) : cbor_encode_negint16.ok v buf off n = true := by simp [cbor_encode_negint16.ok, enc16_ok, h]
theorem pub_negint32_ok (v : UInt32) : cbor_encode_negint32.ok v buf off n = true := by simp [cbor_encode_negint32.ok, enc32_ok, h]
theorem pub_negint64_ok (v : UInt64) : cbor_encode_negint64.ok v buf off n = true := by simp [cbor_encode_negint64.ok, enc64_ok, h]
theorem pub_negint_ok (v : UInt64) : cbor_encode_negint.ok v buf off n = true := by simp [cbor_encode_negint.ok, encUint_ok, h]
theorem pub_bytestring_start_ok (v : UInt64) : cbor_encode_bytestring_start.ok v buf off n = true := by simp [cbor_encode_bytestring_start.ok, encUint_ok, h]
theorem pub_string_start_ok (v : UInt64) : cbor_encode_string_start.ok v buf off n = true := by simp [cbor_encode_string_start.ok, encUint_ok, h]
theorem pub_array_start_ok (v : UInt64) : cbor_encode_array_start.ok v buf off n = true := by simp [cbor_encode_array_start.ok, encUint_ok, h]
theorem pub_map_start_ok (v : UInt64) : cbor_encode_map_start.ok v buf off n = true := by simp [cbor_encode_map_start.ok, encUint_ok, h]
theorem pub_tag_ok (v : UInt64) : cbor_encode_tag.ok v buf off n = true := by simp [cbor_encode_tag.ok, encUint_ok, h]
theorem pub_ctrl_ok (v : UInt8) : cbor_encode_ctrl.ok v buf off n = true := by simp [cbor_encode_ctrl.ok, enc8_ok, h]
theorem pub_indef_bytestring_start_ok : cbor_encode_indef_bytestring_start.ok buf off n = true := by simp [cbor_encode_indef_bytestring_start.ok, encByte_ok, h]
theorem pub_indef_string_start_ok : cbor_encode_indef_string_start.ok buf off n = true := by simp [cbor_encode_indef_string_start.ok, encByte_ok, h]
theorem pub_indef_array_start_ok : cbor_encode_indef_array_start.ok buf off n = true := by simp [cbor_encode_indef_array_start.ok, encByte_ok, h]
theorem pub_indef_map_start_ok : cbor_encode_indef_map_start.ok buf off n = true := by simp [cbor_encode_indef_map_start.ok, encByte_ok, h]
theorem pub_break_ok : cbor_encode_break.ok buf off n = true := by simp [cbor_encode_break.ok, encByte_ok, h]
theorem pub_null_ok : cbor_encode_null.ok buf off n = true := by simp [cbor_encode_null.ok, encByte_ok, h]
theorem pub_undef_ok : cbor_encode_undef.ok buf off n = true := by simp [cbor_encode_undef.ok, encByte_ok, h]
theorem pub_bool_ok (b : Bool) : cbor_encode_bool.ok b buf off n = true := by cases b <;> simp [cbor_encode_bool.ok, encByte_ok, h]
theorem pub_single_ok (v : UInt32) : cbor_encode_single.ok v buf off n = true := by
  unfold cbor_encode_single.ok; simp only []; repeat' split
  all_goals simp [enc32_ok, h]
theorem pub_double_ok (v : UInt64) : cbor_encode_double.ok v buf off n = true := by
  unfold cbor_encode_double.ok; simp only []; repeat' split
  all_goals simp [enc64_ok, h]

end Lemmas
